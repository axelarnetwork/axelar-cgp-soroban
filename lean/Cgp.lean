-- Root of the `Cgp` library: models, drivers' model-side code, and (under Cgp.Props) the property theorems.
import Cgp.Drive.Gw
import Cgp.Drive.Tk
import Cgp.Drive.Gs
import Cgp.Drive.Op
import Cgp.Drive.Up
import Cgp.Drive.Ex
import Cgp.Drive.AbiD
import Cgp.Drive.ItsD
import Cgp.Props.C01
import Cgp.Props.C02
import Cgp.Props.C03
import Cgp.Props.C04
import Cgp.Props.C05
import Cgp.Props.C06
import Cgp.Props.C07
import Cgp.Props.C08
import Cgp.Props.C09
import Cgp.Props.C10
import Cgp.Props.C11
import Cgp.Props.C12
import Cgp.Props.C13
import Cgp.Props.C14
import Cgp.Props.C15
import Cgp.Props.C16
import Cgp.Props.C17
import Cgp.Props.C18
