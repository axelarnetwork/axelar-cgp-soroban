/-
  Cgp.Xdr — the subset of Stellar XDR `ScVal` that the contracts serialise with `to_xdr`
  (for digests, token ids and the `source_address` of ITS messages), its encoder, a fuelled
  decoder, and the theorem that the encoder is injective (prefix-free) on well-formed values (`WF`).
-/
import Cgp.Basic
namespace Cgp.Xdr

/-! ### fixed-width readers -/

def rdN (k : Nat) (bs : Bytes) : Option (Nat × Bytes) :=
  if bs.length < k then none else some (ofBE (bs.take k), bs.drop k)

theorem rdN_beN (k n : Nat) (h : n < 256 ^ k) (r : Bytes) : rdN k (beN k n ++ r) = some (n, r) := by
  have hl := beN_length k n
  rw [rdN, if_neg (by simp [hl]), List.take_left' hl, List.drop_left' hl, ofBE_beN k n h]

/-- `simp` closes the side condition itself when `n` is a literal -/
theorem rd32_be32 (n : Nat) (h : n < 256 ^ 4) (r : Bytes) : rdN 4 (be32 n ++ r) = some (n, r) := rdN_beN 4 n h r

def rdRaw (k : Nat) (bs : Bytes) : Option (Bytes × Bytes) :=
  if bs.length < k then none else some (bs.take k, bs.drop k)

theorem rdRaw_append (b r : Bytes) : rdRaw b.length (b ++ r) = some (b, r) := by
  unfold rdRaw; simp

def padLen (n : Nat) : Nat := (4 - n % 4) % 4

/-- XDR variable-length opaque / string: length, data, zero padding to a multiple of 4 -/
def opq (b : Bytes) : Bytes := be32 b.length ++ b ++ List.replicate (padLen b.length) 0

def rdOpaque (bs : Bytes) : Option (Bytes × Bytes) :=
  match rdN 4 bs with
  | none => none
  | some (n, r) =>
    if r.length < n + padLen n then none
    else if (r.drop n).take (padLen n) = List.replicate (padLen n) 0 then some (r.take n, r.drop (n + padLen n)) else none

theorem rdOpaque_opq (b : Bytes) (h : b.length < 256 ^ 4) (r : Bytes) : rdOpaque (opq b ++ r) = some (b, r) := by
  simp [rdOpaque, opq, rd32_be32 _ h, List.drop_append]

/-! ### addresses -/

structure Addr where
  isContract : Bool
  id : Bytes
deriving DecidableEq, Repr, Inhabited

def Addr.WF (a : Addr) : Prop := a.id.length = 32

/-- `ScAddress`: account = 0 ‖ key type 0 ‖ 32 bytes, contract = 1 ‖ 32 bytes -/
def encAddr (a : Addr) : Bytes :=
  if a.isContract then be32 1 ++ a.id else be32 0 ++ be32 0 ++ a.id

def rdAddr (bs : Bytes) : Option (Addr × Bytes) :=
  match rdN 4 bs with
  | some (1, r) => (match rdRaw 32 r with | some (i, r') => some (⟨true, i⟩, r') | none => none)
  | some (0, r) =>
    (match rdN 4 r with
     | some (0, r1) => (match rdRaw 32 r1 with | some (i, r') => some (⟨false, i⟩, r') | none => none)
     | _ => none)
  | _ => none

theorem rdAddr_encAddr (a : Addr) (h : a.WF) (r : Bytes) : rdAddr (encAddr a ++ r) = some (a, r) := by
  obtain ⟨c, i⟩ := a
  have hr : rdRaw 32 (i ++ r) = some (i, r) := h ▸ rdRaw_append i r
  cases c <;> simp [encAddr, rdAddr, rd32_be32, hr]

/-! ### values -/

mutual
inductive ScVal where
  | bool (b : Bool)
  | void
  | u32 (n : Nat)
  | u64 (n : Nat)
  | u128 (n : Nat)
  | i128 (n : Nat)          -- two's-complement image in [0, 2^128)
  | bytes (b : Bytes)
  | str (b : Bytes)
  | sym (b : Bytes)
  | vec (vs : ScVals)
  | map (ps : ScPairs)
  | addr (a : Addr)
inductive ScVals where
  | nil
  | cons (v : ScVal) (vs : ScVals)
inductive ScPairs where
  | nil
  | cons (k v : ScVal) (ps : ScPairs)
end

def ScVals.len : ScVals → Nat
  | .nil => 0
  | .cons _ vs => vs.len + 1
def ScPairs.len : ScPairs → Nat
  | .nil => 0
  | .cons _ _ ps => ps.len + 1

def ScVals.ofList : List ScVal → ScVals
  | [] => .nil
  | v :: vs => .cons v (ScVals.ofList vs)
def ScPairs.ofList : List (ScVal × ScVal) → ScPairs
  | [] => .nil
  | (k, v) :: ps => .cons k v (ScPairs.ofList ps)

def ScVals.toList : ScVals → List ScVal
  | .nil => []
  | .cons v vs => v :: vs.toList

theorem ScVals.toList_ofList (l : List ScVal) : (ScVals.ofList l).toList = l := by
  induction l with
  | nil => rfl
  | cons v vs ih => exact congrArg (v :: ·) ih

theorem ScVals.ofList_injective {a b : List ScVal} (h : ScVals.ofList a = ScVals.ofList b) : a = b := by
  have := congrArg ScVals.toList h
  rwa [ScVals.toList_ofList, ScVals.toList_ofList] at this

theorem ScVals.ofList_map_inj {α : Type} {f : α → ScVal} (hf : ∀ a b, f a = f b → a = b) {l l' : List α}
    (h : ScVals.ofList (l.map f) = ScVals.ofList (l'.map f)) : l = l' :=
  (List.map_inj_right hf).mp (ScVals.ofList_injective h)

theorem ScVals.len_ofList (l : List ScVal) : (ScVals.ofList l).len = l.length := by
  induction l with
  | nil => rfl
  | cons v vs ih => exact congrArg (· + 1) ih

mutual
def enc : ScVal → Bytes
  | .bool b => be32 0 ++ be32 (if b then 1 else 0)
  | .void => be32 1
  | .u32 n => be32 3 ++ be32 n
  | .u64 n => be32 5 ++ be64 n
  | .u128 n => be32 9 ++ beN 16 n
  | .i128 n => be32 10 ++ beN 16 n
  | .bytes b => be32 13 ++ opq b
  | .str b => be32 14 ++ opq b
  | .sym b => be32 15 ++ opq b
  | .vec vs => be32 16 ++ be32 1 ++ be32 vs.len ++ encs vs
  | .map ps => be32 17 ++ be32 1 ++ be32 ps.len ++ encp ps
  | .addr a => be32 18 ++ encAddr a
def encs : ScVals → Bytes
  | .nil => []
  | .cons v vs => enc v ++ encs vs
def encp : ScPairs → Bytes
  | .nil => []
  | .cons k v ps => enc k ++ enc v ++ encp ps
end

mutual
def dec : Nat → Bytes → Option (ScVal × Bytes)
  | 0, _ => none
  | f+1, bs =>
    match rdN 4 bs with
    | none => none
    | some (t, r) =>
      if t = 0 then (match rdN 4 r with
        | some (0, r') => some (.bool false, r')
        | some (1, r') => some (.bool true, r')
        | _ => none)
      else if t = 1 then some (.void, r)
      else if t = 3 then (match rdN 4 r with | some (n, r') => some (.u32 n, r') | none => none)
      else if t = 5 then (match rdN 8 r with | some (n, r') => some (.u64 n, r') | none => none)
      else if t = 9 then (match rdN 16 r with | some (n, r') => some (.u128 n, r') | none => none)
      else if t = 10 then (match rdN 16 r with | some (n, r') => some (.i128 n, r') | none => none)
      else if t = 13 then (match rdOpaque r with | some (b, r') => some (.bytes b, r') | none => none)
      else if t = 14 then (match rdOpaque r with | some (b, r') => some (.str b, r') | none => none)
      else if t = 15 then (match rdOpaque r with | some (b, r') => some (.sym b, r') | none => none)
      else if t = 16 then
        (match rdN 4 r with
         | some (1, r1) => (match rdN 4 r1 with
            | some (n, r2) => (match decs f n r2 with | some (vs, r3) => some (.vec vs, r3) | none => none)
            | none => none)
         | _ => none)
      else if t = 17 then
        (match rdN 4 r with
         | some (1, r1) => (match rdN 4 r1 with
            | some (n, r2) => (match decp f n r2 with | some (ps, r3) => some (.map ps, r3) | none => none)
            | none => none)
         | _ => none)
      else if t = 18 then (match rdAddr r with | some (a, r') => some (.addr a, r') | none => none)
      else none
def decs : Nat → Nat → Bytes → Option (ScVals × Bytes)
  | _, 0, bs => some (.nil, bs)
  | 0, _+1, _ => none
  | f+1, n+1, bs =>
    match dec f bs with
    | none => none
    | some (v, r) => match decs f n r with
      | none => none
      | some (vs, r') => some (.cons v vs, r')
def decp : Nat → Nat → Bytes → Option (ScPairs × Bytes)
  | _, 0, bs => some (.nil, bs)
  | 0, _+1, _ => none
  | f+1, n+1, bs =>
    match dec f bs with
    | none => none
    | some (k, r) => match dec f r with
      | none => none
      | some (v, r1) => match decp f n r1 with
        | none => none
        | some (ps, r') => some (.cons k v ps, r')
end

mutual
def ScVal.size : ScVal → Nat
  | .vec vs => vs.size + 1
  | .map ps => ps.size + 1
  | _ => 1
def ScVals.size : ScVals → Nat
  | .nil => 0
  | .cons v vs => v.size + vs.size + 1
def ScPairs.size : ScPairs → Nat
  | .nil => 0
  | .cons k v ps => k.size + v.size + ps.size + 1
end

-- well-typedness: every integer fits its width, every length fits 32 bits (true of every host value)
mutual
def ScVal.WF : ScVal → Prop
  | .bool _ => True
  | .void => True
  | .u32 n => n < 256 ^ 4
  | .u64 n => n < 256 ^ 8
  | .u128 n => n < 256 ^ 16
  | .i128 n => n < 256 ^ 16
  | .bytes b => b.length < 256 ^ 4
  | .str b => b.length < 256 ^ 4
  | .sym b => b.length < 256 ^ 4
  | .vec vs => vs.len < 256 ^ 4 ∧ vs.WF
  | .map ps => ps.len < 256 ^ 4 ∧ ps.WF
  | .addr a => a.WF
def ScVals.WF : ScVals → Prop
  | .nil => True
  | .cons v vs => v.WF ∧ vs.WF
def ScPairs.WF : ScPairs → Prop
  | .nil => True
  | .cons k v ps => k.WF ∧ v.WF ∧ ps.WF
end

theorem ScVals.WF_ofList (l : List ScVal) : (ScVals.ofList l).WF ↔ ∀ v ∈ l, v.WF := by
  induction l with
  | nil => exact ⟨nofun, fun _ => trivial⟩
  | cons v vs ih => exact (and_congr_right' ih).trans List.forall_mem_cons.symm

@[simp] theorem ScVals.WF_ofList_map {α : Type} (f : α → ScVal) (l : List α) :
    (ScVals.ofList (l.map f)).WF ↔ ∀ a ∈ l, (f a).WF := by
  rw [ScVals.WF_ofList, List.forall_mem_map]

theorem ScVal.size_pos (v : ScVal) : 0 < v.size := by cases v <;> exact Nat.succ_pos _

/-- The decoders recurse on their fuel, so the round trip is an induction on the fuel, for the three decoders at once. -/
theorem roundtrip (f : Nat) :
    (∀ v r, v.WF → v.size ≤ f → dec f (enc v ++ r) = some (v, r)) ∧
    (∀ vs r, vs.WF → vs.size ≤ f → decs f vs.len (encs vs ++ r) = some (vs, r)) ∧
    (∀ ps r, ps.WF → ps.size ≤ f → decp f ps.len (encp ps ++ r) = some (ps, r)) := by
  induction f with
  | zero =>
    refine ⟨fun v _ _ hf => absurd hf (Nat.not_le.mpr v.size_pos), fun vs r _ hf => ?_, fun ps r _ hf => ?_⟩
    · cases vs with
      | nil => rfl
      | cons => exact absurd hf (Nat.not_succ_le_zero _)
    · cases ps with
      | nil => rfl
      | cons => exact absurd hf (Nat.not_succ_le_zero _)
  | succ f ih =>
    obtain ⟨ihv, ihs, ihp⟩ := ih
    refine ⟨fun v r h hf => ?_, fun vs r h hf => ?_, fun ps r h hf => ?_⟩
    · cases v with
      | bool b => cases b <;> simp [enc, dec, rd32_be32]
      | void => simp [enc, dec, rd32_be32]
      | u32 n => simp [enc, dec, rd32_be32, rd32_be32 n h]
      | u64 n => simp [enc, dec, rd32_be32, be64, rdN_beN 8 n h]
      | u128 n => simp [enc, dec, rd32_be32, rdN_beN 16 n h]
      | i128 n => simp [enc, dec, rd32_be32, rdN_beN 16 n h]
      | bytes b => simp [enc, dec, rd32_be32, rdOpaque_opq b h]
      | str b => simp [enc, dec, rd32_be32, rdOpaque_opq b h]
      | sym b => simp [enc, dec, rd32_be32, rdOpaque_opq b h]
      | vec vs => simp [enc, dec, rd32_be32, rd32_be32 _ h.1, ihs vs r h.2 (Nat.le_of_succ_le_succ hf)]
      | map ps => simp [enc, dec, rd32_be32, rd32_be32 _ h.1, ihp ps r h.2 (Nat.le_of_succ_le_succ hf)]
      | addr a => simp [enc, dec, rd32_be32, rdAddr_encAddr a h]
    · cases vs with
      | nil => rfl
      | cons v vs =>
        simp only [ScVals.size] at hf
        simp only [encs, decs, ScVals.len, List.append_assoc, ihv v _ h.1 (by omega), ihs vs r h.2 (by omega)]
    · cases ps with
      | nil => rfl
      | cons k v ps =>
        simp only [ScPairs.size] at hf
        simp only [encp, decp, ScPairs.len, List.append_assoc, ihv k _ h.1 (by omega), ihv v _ h.2.1 (by omega),
          ihp ps r h.2.2 (by omega)]

theorem dec_enc : ∀ (v : ScVal) (f : Nat) (r : Bytes), v.WF → v.size ≤ f → dec f (enc v ++ r) = some (v, r) :=
  fun v f r => (roundtrip f).1 v r
theorem decs_encs : ∀ (vs : ScVals) (f : Nat) (r : Bytes), vs.WF → vs.size ≤ f → decs f vs.len (encs vs ++ r) = some (vs, r) :=
  fun vs f r => (roundtrip f).2.1 vs r
theorem decp_encp : ∀ (ps : ScPairs) (f : Nat) (r : Bytes), ps.WF → ps.size ≤ f → decp f ps.len (encp ps ++ r) = some (ps, r) :=
  fun ps f r => (roundtrip f).2.2 ps r

theorem enc_prefix_free (a b : ScVal) (r r' : Bytes) (ha : a.WF) (hb : b.WF) (h : enc a ++ r = enc b ++ r') : a = b ∧ r = r' := by
  have h1 := dec_enc a (a.size + b.size) r ha (Nat.le_add_right ..)
  rw [h, dec_enc b _ r' hb (Nat.le_add_left ..)] at h1
  exact Prod.mk.inj (Option.some.inj h1.symm)

theorem enc_injective (a b : ScVal) (ha : a.WF) (hb : b.WF) (h : enc a = enc b) : a = b :=
  (enc_prefix_free a b [] [] ha hb (by rw [h])).1

theorem hash_enc_binds (H : Bytes → Bytes) {x y : ScVal} (hx : x.WF) (hy : y.WF) (h : H (enc x) = H (enc y)) :
    x = y ∨ ∃ a b, a ≠ b ∧ H a = H b :=
  (eq_or_collision H h).imp_left (enc_injective x y hx hy)

attribute [simp] ScVal.WF ScVals.WF ScPairs.WF ScVals.len ScPairs.len ScVals.len_ofList

end Cgp.Xdr
