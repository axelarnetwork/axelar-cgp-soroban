/-
  Every change the token makes to balances and allowances is one of three named updates (`credit`, `setAllow`, `spend`), and
  every entry point is characterised with the new state written out in them.  `approve` and the two delegated calls stop at
  the inversion `→`: nothing uses the reverse, and for the delegated calls it would have to carry the host's TTL guard on the
  entry that `spend_allowance` rewrites.
-/
import Cgp.Token
namespace Cgp.Token
open Cgp.Xdr

def State.credit (st : State) (who : Addr) (d : Int) : State :=
  { st with bal := bump st.bal who d }

def State.setAllow (st : State) (src spender : Addr) (al : Allowance) : State :=
  { st with allow := fun f s => if f = src ∧ s = spender then some al else st.allow f s }

/-- the allowance table after `spend_allowance`: a positive spend rewrites the entry as read (so an entry is never
    revived: a positive spend needs a live entry), keeping its expiration; a zero spend writes nothing -/
def State.spend (st : State) (seq : Nat) (src spender : Addr) (amount : Int) : State :=
  if 0 < amount then
    st.setAllow src spender ⟨(readAllowance st seq src spender).amount - amount, (readAllowance st seq src spender).expiration⟩
  else st

section
variable (st : State) (w : Addr) (d : Int) (src spender : Addr) (al : Allowance)

@[simp] theorem State.credit_bal (a : Addr) : (st.credit w d).bal a = st.bal a + if a = w then d else 0 := bump_apply ..
theorem State.credit_bal_self : (st.credit w d).bal w = st.bal w + d := if_pos rfl
theorem State.credit_bal_other (a : Addr) (h : a ≠ w) : (st.credit w d).bal a = st.bal a := if_neg h
@[simp] theorem State.credit_minter : (st.credit w d).minter = st.minter := rfl
@[simp] theorem State.credit_owner : (st.credit w d).owner = st.owner := rfl

@[simp] theorem State.setAllow_allow (f s : Addr) :
    (st.setAllow src spender al).allow f s = if f = src ∧ s = spender then some al else st.allow f s := rfl
@[simp] theorem State.setAllow_minter : (st.setAllow src spender al).minter = st.minter := rfl
@[simp] theorem State.setAllow_owner : (st.setAllow src spender al).owner = st.owner := rfl

end

section
variable (st : State) (seq : Nat) (src spender : Addr) (amount : Int)

@[simp] theorem State.spend_bal : (st.spend seq src spender amount).bal = st.bal := by unfold State.spend; split <;> rfl
@[simp] theorem State.spend_minter : (st.spend seq src spender amount).minter = st.minter := by unfold State.spend; split <;> rfl
@[simp] theorem State.spend_owner : (st.spend seq src spender amount).owner = st.owner := by unfold State.spend; split <;> rfl
end

theorem moved_bal (st : State) (src dst : Addr) (amount : Int) :
    (src ≠ dst → ((st.credit src (-amount)).credit dst amount).bal src = st.bal src - amount ∧
      ((st.credit src (-amount)).credit dst amount).bal dst = st.bal dst + amount) ∧
    (src = dst → ((st.credit src (-amount)).credit dst amount).bal src = st.bal src) ∧
    (∀ a, a ≠ src → a ≠ dst → ((st.credit src (-amount)).credit dst amount).bal a = st.bal a) :=
  bump_bump st.bal src dst amount

theorem readAllowance_none {st : State} {src spender : Addr} (seq : Nat) (h : st.allow src spender = none) :
    readAllowance st seq src spender = ⟨0, 0⟩ := by
  simp only [readAllowance, h]

theorem readAllowance_some {st : State} {src spender : Addr} {a : Allowance} (seq : Nat)
    (h : st.allow src spender = some a) :
    readAllowance st seq src spender = if a.expiration < seq then ⟨0, a.expiration⟩ else a := by
  simp only [readAllowance, h]

theorem readAllowance_pos {st : State} {seq : Nat} {src spender : Addr}
    (h : 0 < (readAllowance st seq src spender).amount) :
    st.allow src spender = some (readAllowance st seq src spender) ∧
      seq ≤ (readAllowance st seq src spender).expiration := by
  cases ha : st.allow src spender with
  | none => rw [readAllowance_none seq ha] at h; exact absurd h (Int.lt_irrefl 0)
  | some a =>
    rw [readAllowance_some seq ha] at h ⊢
    split at h
    · exact absurd h (Int.lt_irrefl 0)
    · next hl => rw [if_neg hl]; exact ⟨rfl, by omega⟩

theorem State.spend_allow {st : State} {seq : Nat} {src spender f s : Addr} {amount : Int} {al : Allowance}
    (h : (st.spend seq src spender amount).allow f s = some al) :
    st.allow f s = some al ∨
      (f = src ∧ s = spender ∧ 0 < amount ∧
        al = ⟨(readAllowance st seq src spender).amount - amount, (readAllowance st seq src spender).expiration⟩) := by
  unfold State.spend at h
  split at h
  · next hp =>
    rw [State.setAllow_allow] at h
    split at h
    · next hfs => cases h; exact Or.inr ⟨hfs.1, hfs.2, hp, rfl⟩
    · exact Or.inl h
  · exact Or.inl h

theorem State.spend_read {st : State} {seq : Nat} {src spender : Addr} {amount : Int} (h0 : 0 ≤ amount)
    (hle : amount ≤ (readAllowance st seq src spender).amount) :
    (readAllowance (st.spend seq src spender amount) seq src spender).amount =
      (readAllowance st seq src spender).amount - amount := by
  unfold State.spend
  split
  · next hp =>
    obtain ⟨_, hlive⟩ := readAllowance_pos (Int.lt_of_lt_of_le hp hle)
    rw [readAllowance_some seq (by rw [State.setAllow_allow, if_pos ⟨rfl, rfl⟩]), if_neg (Nat.not_lt.2 hlive)]
  · omega

theorem spendBalance_ok_iff {st st1 : State} {who : Addr} {amount : Int} :
    spendBalance st who amount = .ok st1 ↔ amount ≤ st.bal who ∧ st1 = st.credit who (-amount) := by
  rw [spendBalance, guard_ok_iff, Except.ok.injEq]
  exact and_congr Int.not_lt eq_comm

theorem receiveBalance_ok_iff {st st1 : State} {who : Addr} {amount : Int} :
    receiveBalance st who amount = .ok st1 ↔ st.bal who + amount ≤ i128Max ∧ st1 = st.credit who amount := by
  rw [receiveBalance, guard_ok_iff, Except.ok.injEq]
  exact and_congr Int.not_lt eq_comm

theorem writeAllowance_ok {st st1 : State} {c : Ctx} {src spender : Addr} {amount : Int} {exp : Nat}
    (h : writeAllowance st c src spender amount exp = .ok st1) :
    (0 < amount → c.seq ≤ exp ∧ exp - c.seq ≤ c.maxLive) ∧ st1 = st.setAllow src spender ⟨amount, exp⟩ := by
  revert h
  -- the definition's own case split: every refusing branch ends in `.error _ = .ok _`, which `cases h` closes; the success
  -- path is left
  fun_cases writeAllowance st c src spender amount exp <;> intro h <;> cases h
  exact ⟨by omega, rfl⟩

theorem spendAllowance_ok {st st1 : State} {c : Ctx} {src spender : Addr} {amount : Int}
    (h : spendAllowance st c src spender amount = .ok st1) :
    amount ≤ (readAllowance st c.seq src spender).amount ∧ st1 = st.spend c.seq src spender amount := by
  revert h
  fun_cases spendAllowance st c src spender amount <;> intro h
  · cases h
  · next hle hp => exact ⟨Int.not_lt.1 hle, by rw [State.spend, if_pos hp]; exact (writeAllowance_ok h).2⟩
  · next hle hp => cases h; exact ⟨Int.not_lt.1 hle, by rw [State.spend, if_neg hp]⟩

section
variable {st st' : State} {c : Ctx} {evs : List Event}

theorem mintFrom_ok_iff {minter to : Addr} {amount : Int} : mintFrom st c minter to amount = .ok (st', evs) ↔
    minter ∈ c.auths ∧ st.minter minter = true ∧ 0 ≤ amount ∧ st.bal to + amount ≤ i128Max ∧
      st' = st.credit to amount ∧ evs = [evMint minter to amount] := by
  constructor
  · fun_cases mintFrom st c minter to amount <;> intro h <;> cases h
    rename_i h1 h2 h3 h4
    obtain ⟨hov, hst⟩ := receiveBalance_ok_iff.1 h4
    exact ⟨Decidable.not_not.1 h1, by simpa using h2, by omega, hov, hst, rfl⟩
  · rintro ⟨h1, h2, h3, h4, rfl, rfl⟩
    simp [mintFrom, h1, h2, Int.not_lt.2 h3, receiveBalance_ok_iff.2 ⟨h4, rfl⟩]

theorem addMinter_ok_iff {m : Addr} : addMinter st c m = .ok (st', evs) ↔
    st.owner ∈ c.auths ∧ st' = { st with minter := fun a => if a = m then true else st.minter a } ∧
      evs = [evMinterAdded m] := by
  rw [addMinter, guard_ok_iff, Decidable.not_not, Except.ok.injEq, Prod.mk.injEq]
  exact and_congr_right' (and_congr eq_comm eq_comm)

theorem removeMinter_ok_iff {m : Addr} : removeMinter st c m = .ok (st', evs) ↔
    st.owner ∈ c.auths ∧ st' = { st with minter := fun a => if a = m then false else st.minter a } ∧
      evs = [evMinterRemoved m] := by
  rw [removeMinter, guard_ok_iff, Decidable.not_not, Except.ok.injEq, Prod.mk.injEq]
  exact and_congr_right' (and_congr eq_comm eq_comm)

theorem transferOwnership_ok_iff {new : Addr} : transferOwnership st c new = .ok (st', evs) ↔
    st.owner ∈ c.auths ∧ st' = { st with owner := new } ∧
      evs = [evOwnershipTransferred st.owner new, evSetAdmin st.owner new] := by
  rw [transferOwnership, guard_ok_iff, Decidable.not_not, Except.ok.injEq, Prod.mk.injEq]
  exact and_congr_right' (and_congr eq_comm eq_comm)

theorem approve_ok {src spender : Addr} {amount : Int} {exp : Nat}
    (h : approve st c src spender amount exp = .ok (st', evs)) :
    src ∈ c.auths ∧ 0 ≤ amount ∧ (0 < amount → c.seq ≤ exp ∧ exp - c.seq ≤ c.maxLive) ∧
      st' = st.setAllow src spender ⟨amount, exp⟩ ∧ evs = [evApprove src spender amount exp] := by
  revert h
  fun_cases approve st c src spender amount exp <;> intro h <;> cases h
  rename_i h1 h2 h3
  obtain ⟨hw, hst⟩ := writeAllowance_ok h3
  exact ⟨Decidable.not_not.1 h1, by omega, hw, hst, rfl⟩

theorem transfer_ok_iff {src dst : Addr} {amount : Int} : transfer st c src dst amount = .ok (st', evs) ↔
    src ∈ c.auths ∧ 0 ≤ amount ∧ amount ≤ st.bal src ∧ (st.credit src (-amount)).bal dst + amount ≤ i128Max ∧
      st' = (st.credit src (-amount)).credit dst amount ∧ evs = [evTransfer src dst amount] := by
  constructor
  · fun_cases transfer st c src dst amount <;> intro h <;> cases h
    rename_i h1 h2 _ h3 h4
    obtain ⟨hle, rfl⟩ := spendBalance_ok_iff.1 h3
    obtain ⟨hov, rfl⟩ := receiveBalance_ok_iff.1 h4
    exact ⟨Decidable.not_not.1 h1, by omega, hle, hov, rfl, rfl⟩
  · rintro ⟨h1, h2, h3, h4, rfl, rfl⟩
    simp [transfer, h1, Int.not_lt.2 h2, spendBalance_ok_iff.2 ⟨h3, rfl⟩, receiveBalance_ok_iff.2 ⟨h4, rfl⟩]

theorem burn_ok_iff {src : Addr} {amount : Int} : burn st c src amount = .ok (st', evs) ↔
    src ∈ c.auths ∧ 0 ≤ amount ∧ amount ≤ st.bal src ∧ st' = st.credit src (-amount) ∧ evs = [evBurn src amount] := by
  constructor
  · fun_cases burn st c src amount <;> intro h <;> cases h
    rename_i h1 h2 h3
    obtain ⟨hle, hst⟩ := spendBalance_ok_iff.1 h3
    exact ⟨Decidable.not_not.1 h1, by omega, hle, hst, rfl⟩
  · rintro ⟨h1, h2, h3, rfl, rfl⟩
    simp [burn, h1, Int.not_lt.2 h2, spendBalance_ok_iff.2 ⟨h3, rfl⟩]

theorem transferFrom_ok {spender src dst : Addr} {amount : Int}
    (h : transferFrom st c spender src dst amount = .ok (st', evs)) :
    spender ∈ c.auths ∧ 0 ≤ amount ∧ amount ≤ (readAllowance st c.seq src spender).amount ∧ amount ≤ st.bal src ∧
      st' = ((st.spend c.seq src spender amount).credit src (-amount)).credit dst amount ∧
      evs = [evTransfer src dst amount] := by
  revert h
  fun_cases transferFrom st c spender src dst amount <;> intro h <;> cases h
  rename_i h1 h2 _ h3 _ h4 h5
  obtain ⟨hal, rfl⟩ := spendAllowance_ok h3
  obtain ⟨hle, rfl⟩ := spendBalance_ok_iff.1 h4
  exact ⟨Decidable.not_not.1 h1, by omega, hal, by simpa using hle, (receiveBalance_ok_iff.1 h5).2, rfl⟩

theorem burnFrom_ok {spender src : Addr} {amount : Int} (h : burnFrom st c spender src amount = .ok (st', evs)) :
    spender ∈ c.auths ∧ 0 ≤ amount ∧ amount ≤ (readAllowance st c.seq src spender).amount ∧ amount ≤ st.bal src ∧
      st' = (st.spend c.seq src spender amount).credit src (-amount) ∧ evs = [evBurn src amount] := by
  revert h
  fun_cases burnFrom st c spender src amount <;> intro h <;> cases h
  rename_i h1 h2 _ h3 h4
  obtain ⟨hal, rfl⟩ := spendAllowance_ok h3
  obtain ⟨hle, hst⟩ := spendBalance_ok_iff.1 h4
  exact ⟨Decidable.not_not.1 h1, by omega, hal, by simpa using hle, hst, rfl⟩

end

inductive Effect (st : State) (c : Ctx) : Op → State × Except Err (List Event) → Prop
  | refused (op : Op) (e : Err) : Effect st c op (st, .error e)
  | mintFrom {m t a evs} (hau : m ∈ c.auths) (hm : st.minter m = true) (h0 : 0 ≤ a) :
      Effect st c (.mintFrom m t a) (st.credit t a, .ok evs)
  | mint {t a evs} (hau : st.owner ∈ c.auths) (hm : st.minter st.owner = true) (h0 : 0 ≤ a) :
      Effect st c (.mint t a) (st.credit t a, .ok evs)
  | addMinter {m evs} (ho : st.owner ∈ c.auths) :
      Effect st c (.addMinter m) ({ st with minter := fun a => if a = m then true else st.minter a }, .ok evs)
  | removeMinter {m evs} (ho : st.owner ∈ c.auths) :
      Effect st c (.removeMinter m) ({ st with minter := fun a => if a = m then false else st.minter a }, .ok evs)
  | approve {s p a e evs} (hau : s ∈ c.auths) (h0 : 0 ≤ a) :
      Effect st c (.approve s p a e) (st.setAllow s p ⟨a, e⟩, .ok evs)
  | transfer {s d a evs} (hau : s ∈ c.auths) (h0 : 0 ≤ a) (hle : a ≤ st.bal s) :
      Effect st c (.transfer s d a) ((st.credit s (-a)).credit d a, .ok evs)
  | transferFrom {p s d a evs} (hau : p ∈ c.auths) (h0 : 0 ≤ a) (hal : a ≤ (readAllowance st c.seq s p).amount)
      (hle : a ≤ st.bal s) :
      Effect st c (.transferFrom p s d a) (((st.spend c.seq s p a).credit s (-a)).credit d a, .ok evs)
  | burn {s a evs} (hau : s ∈ c.auths) (h0 : 0 ≤ a) (hle : a ≤ st.bal s) :
      Effect st c (.burn s a) (st.credit s (-a), .ok evs)
  | burnFrom {p s a evs} (hau : p ∈ c.auths) (h0 : 0 ≤ a) (hal : a ≤ (readAllowance st c.seq s p).amount)
      (hle : a ≤ st.bal s) : Effect st c (.burnFrom p s a) ((st.spend c.seq s p a).credit s (-a), .ok evs)
  | transferOwnership {n evs} (ho : st.owner ∈ c.auths) : Effect st c (.transferOwnership n) ({ st with owner := n }, .ok evs)
  | upgradeMigrate (ho : st.owner ∈ c.auths) : Effect st c .upgradeMigrate (st, .ok [])

theorem apply_upgradeMigrate_ok {st : State} {c : Ctx} {r : State × List Event} (h : apply st c .upgradeMigrate = .ok r) :
    r = (st, []) ∧ st.owner ∈ c.auths :=
  let ⟨hc, hr⟩ := guard_ok_iff.1 h; ⟨(Except.ok.inj hr).symm, Decidable.not_not.1 hc⟩

theorem step_effect (st : State) (c : Ctx) (op : Op) : Effect st c op (step st c op) := by
  unfold step
  cases h : apply st c op with
  | error e => exact .refused op e
  | ok r =>
    obtain ⟨st', evs⟩ := r
    cases op with
    | mintFrom m t a => obtain ⟨h1, h2, h3, -, rfl, -⟩ := mintFrom_ok_iff.1 h; exact .mintFrom h1 h2 h3
    | mint t a => obtain ⟨h1, h2, h3, -, rfl, -⟩ := mintFrom_ok_iff.1 h; exact .mint h1 h2 h3
    | addMinter m => obtain ⟨ho, rfl, -⟩ := addMinter_ok_iff.1 h; exact .addMinter ho
    | removeMinter m => obtain ⟨ho, rfl, -⟩ := removeMinter_ok_iff.1 h; exact .removeMinter ho
    | approve s p a e => obtain ⟨h1, h2, -, rfl, -⟩ := approve_ok h; exact .approve h1 h2
    | transfer s d a => obtain ⟨h1, h2, h3, -, rfl, -⟩ := transfer_ok_iff.1 h; exact .transfer h1 h2 h3
    | transferFrom p s d a => obtain ⟨h1, h2, h3, h4, rfl, -⟩ := transferFrom_ok h; exact .transferFrom h1 h2 h3 h4
    | burn s a => obtain ⟨h1, h2, h3, rfl, -⟩ := burn_ok_iff.1 h; exact .burn h1 h2 h3
    | burnFrom p s a => obtain ⟨h1, h2, h3, h4, rfl, -⟩ := burnFrom_ok h; exact .burnFrom h1 h2 h3 h4
    | transferOwnership n => obtain ⟨ho, rfl, -⟩ := transferOwnership_ok_iff.1 h; exact .transferOwnership ho
    | upgradeMigrate => obtain ⟨hr, ho⟩ := apply_upgradeMigrate_ok h; cases hr; exact .upgradeMigrate ho

theorem step_upgradeMigrate_fst {st : State} {c : Ctx} : (step st c .upgradeMigrate).1 = st := by
  have he := step_effect st c .upgradeMigrate
  generalize step st c .upgradeMigrate = r at he ⊢
  cases he with
  | _ => rfl

theorem step_err (st : State) (c : Ctx) (op : Op) (e : Err) (h : (step st c op).2 = .error e) : (step st c op).1 = st := by
  have he := step_effect st c op
  generalize step st c op = r at he h ⊢
  cases he with
  | refused => rfl
  | _ => cases h

end Cgp.Token

namespace Cgp.Proofs.C06.Tk
open Cgp.Xdr Cgp.Token

theorem writeAllowance_owner {st st1 : State} {c : Ctx} {src spender : Addr} {amount : Int} {exp : Nat}
    (h : writeAllowance st c src spender amount exp = .ok st1) : st1.owner = st.owner := by
  rw [(writeAllowance_ok h).2]; rfl

end Cgp.Proofs.C06.Tk
