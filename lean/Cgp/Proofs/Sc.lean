/-
  The gateway's XDR forms (`toSc`, `approveData`, `rotateData`): typed values encode to well-formed `ScVal`s, the forms are
  injective, and so each hash of a form binds the value it was made from, or exhibits a collision.
-/
import Cgp.GatewaySpec
namespace Cgp.Gateway
open Cgp.Xdr

theorem WSigner.toSc_WF {s : WSigner} (h : s.Typed) : s.toSc.WF := by
  simp +decide only [WSigner.toSc, ScVal.WF, ScPairs.WF, ScPairs.len, h.1, show s.weight < 256 ^ 16 from h.2]

theorem WSigner.toSc_inj (a b : WSigner) (h : a.toSc = b.toSc) : a = b := by
  cases a; cases b; simpa [WSigner.toSc] using h

theorem WSigners.toSc_WF {ws : WSigners} (h : ws.Typed) : ws.toSc.WF := by
  obtain ⟨h1, h2, h3, h4⟩ := h
  simp +decide only [WSigners.toSc, ScVal.WF, ScPairs.WF, ScPairs.len, ScVals.len_ofList, List.length_map,
    ScVals.WF_ofList_map, h2, h4, show ws.threshold < 256 ^ 16 from h3, true_and, and_true]
  exact fun s hs => WSigner.toSc_WF (h1 s hs)

theorem WSigners.toSc_inj (a b : WSigners) (h : a.toSc = b.toSc) : a = b := by
  cases a; cases b
  simp only [WSigners.toSc, ScVal.map.injEq, ScPairs.cons.injEq, ScVal.bytes.injEq, ScVal.vec.injEq,
    ScVal.u128.injEq, true_and, and_true] at h
  simp [h.1, h.2.2, ScVals.ofList_map_inj WSigner.toSc_inj h.2.1]

theorem Message.toSc_WF {m : Message} (h : m.Typed) : m.toSc.WF := by
  obtain ⟨h1, h2, h3, h4, h5⟩ := h
  simp +decide only [Message.toSc, ScVal.WF, ScPairs.WF, ScPairs.len, h1, h2, h3, h4, h5]

theorem Message.toSc_inj (a b : Message) (h : a.toSc = b.toSc) : a = b := by
  cases a; cases b
  simp only [Message.toSc, ScVal.map.injEq, ScPairs.cons.injEq, ScVal.addr.injEq, ScVal.str.injEq,
    ScVal.bytes.injEq, true_and, and_true] at h
  simp only [h]

theorem approveData_WF {ms : List Message} (h : ∀ m ∈ ms, m.Typed) (hl : ms.length < 256 ^ 4) : (approveData ms).WF := by
  simp +decide only [approveData, ScVal.WF, ScVals.WF, ScVals.len, ScVals.len_ofList, List.length_map,
    ScVals.WF_ofList_map, hl, true_and, and_true]
  exact fun m hm => Message.toSc_WF (h m hm)

theorem rotateData_WF {ws : WSigners} (h : ws.Typed) : (rotateData ws).WF := by
  simp +decide only [rotateData, ScVal.WF, ScVals.WF, ScVals.len, WSigners.toSc_WF h]

theorem approveData_inj (a b : List Message) (h : approveData a = approveData b) : a = b := by
  simp only [approveData, ScVal.vec.injEq, ScVals.cons.injEq, true_and, and_true] at h
  exact ScVals.ofList_map_inj Message.toSc_inj h

theorem approveData_ne_rotateData (ms : List Message) (ws : WSigners) : approveData ms ≠ rotateData ws := by
  simp +decide [approveData, rotateData, symApproveMessages, symRotateSigners]

variable (H : Bytes → Bytes)

theorem messageHash_binds {a b : Message} (ha : a.Typed) (hb : b.Typed) (h : messageHash H a = messageHash H b) :
    a = b ∨ Collision H :=
  (hash_enc_binds H (Message.toSc_WF ha) (Message.toSc_WF hb) h).imp_left (Message.toSc_inj a b)

theorem signersHash_binds {a b : WSigners} (ha : a.Typed) (hb : b.Typed) (h : signersHash H a = signersHash H b) :
    a = b ∨ Collision H :=
  (hash_enc_binds H (WSigners.toSc_WF ha) (WSigners.toSc_WF hb) h).imp_left (WSigners.toSc_inj a b)

end Cgp.Gateway
