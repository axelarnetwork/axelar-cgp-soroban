/-
  What it takes for a predicate on the signer bookkeeping to hold of every reachable state (`AuthInv`: true of the initial
  state, kept by a rotation, blind to every other field), and the auth invariant `GInv` of C03 as one such predicate.
-/
import Cgp.Proofs.Gateway
namespace Cgp.Proofs.C03
open Cgp.Xdr Cgp.Gateway

variable (H : Bytes → Bytes) {σ : Type} (V : Bytes → Bytes → σ → Bool)

/-- agreement on the four fields that record signer sets: all that an `AuthInv` may read -/
def SameAuth (a b : State) : Prop :=
  a.hashByEpoch = b.hashByEpoch ∧ a.epochByHash = b.epochByHash ∧ a.epoch = b.epoch ∧ a.setAt = b.setAt

theorem step_auth (w : World) (op : Op σ) :
    SameAuth (step H V w op).1.st w.st ∨
    (∃ auths ws proof bypass evs, op = .rotate auths ws proof bypass ∧ (step H V w op).2 = .ok evs ∧
      (step H V w op).1.st = rotated H w.st ws w.now ∧ WellFormed ws ∧
      w.st.epochByHash (signersHash H ws) = none) := by
  have h := step_effect H V w op
  generalize step H V w op = r at h ⊢
  cases h with
  | rotate _ _ _ hwf _ hn => exact Or.inr ⟨_, _, _, _, _, rfl, rfl, rfl, hwf, hn⟩
  | _ => exact Or.inl ⟨rfl, rfl, rfl, rfl⟩

/-- an invariant that reads only the signer bookkeeping; `R` is what is assumed of the sets submitted to `rotate` -/
structure AuthInv (R : WSigners → Prop) (P : State → Prop) : Prop where
  congr : ∀ {a b}, SameAuth a b → P b → P a
  init : ∀ {owner operator domain minDelay retention}, P (initState owner operator domain minDelay retention)
  rotated : ∀ {st ws now}, R ws → WellFormed ws → st.epochByHash (signersHash H ws) = none → P st →
    P (rotated H st ws now)

variable {H} {R : WSigners → Prop} {P : State → Prop}

theorem AuthInv.step (hP : AuthInv H R P) (w : World) (op : Op σ)
    (hop : ∀ auths ws proof bypass, op = .rotate auths ws proof bypass → R ws) (h : P w.st) : P (step H V w op).1.st := by
  rcases step_auth H V w op with hs | ⟨auths, ws, proof, bypass, evs, hr, _, hst, hwf, hn⟩
  · exact hP.congr hs h
  · rw [hst]; exact hP.rotated (hop _ _ _ _ hr) hwf hn h

theorem AuthInv.constructed (hP : AuthInv H R P) {owner operator : Addr} {domain : Bytes} {minDelay retention : Nat}
    {sets : List WSigners} {now : Nat} {w0 : World} (hsets : ∀ ws ∈ sets, R ws)
    (hc : constructed H owner operator domain minDelay retention sets now = some w0) : P w0.st := by
  obtain ⟨_, evs, h⟩ := constructed_iff.mp hc
  exact (construct_induction H h hP.init fun st ws hws hwf hn => hP.rotated (hsets ws hws) hwf hn).1

variable (H)

theorem inverse_insert {α β : Type} [DecidableEq α] [DecidableEq β] {f : α → Option β} {g : β → Option α} {a : α} {b : β}
    (hfg : ∀ x y, f x = some y → g y = some x) (hb : g b = none) (x : α) (y : β)
    (h : (if x = a then some b else f x) = some y) : (if y = b then some a else g y) = some x := by
  split at h
  · cases h; rw [if_pos rfl]; subst x; rfl
  · have := hfg x y h
    rw [if_neg fun hc => by rw [hc, hb] at this; cases this]
    exact this

theorem GInv_rotated {st : State} {ws : WSigners} {now : Nat} (hwf : WellFormed ws)
    (hn : st.epochByHash (signersHash H ws) = none) (hg : GInv H st) : GInv H (rotated H st ws now) := by
  have hnew : st.hashByEpoch (st.epoch + 1) = none :=
    Option.not_isSome_iff_eq_none.mp fun h => Nat.lt_irrefl _ ((hg.range _).mp h).2
  refine ⟨inverse_insert hg.fwd hn, fun e h => inverse_insert (fun h e => hg.bwd e h) hnew h e, fun e => ?_, fun e h he => ?_⟩
  · show (if e = st.epoch + 1 then some _ else st.hashByEpoch e).isSome = true ↔ 1 ≤ e ∧ e ≤ st.epoch + 1
    split
    · subst e; exact iff_of_true rfl ⟨Nat.le_add_left .., Nat.le_refl _⟩
    · exact (hg.range e).trans (and_congr_right fun _ =>
        ⟨Nat.le_succ_of_le, fun h => Nat.le_of_lt_succ (Nat.lt_of_le_of_ne h ‹_›)⟩)
  · by_cases hE : e = st.epoch + 1
    · cases (if_pos hE).symm.trans he
      exact ⟨ws, if_pos hE, rfl, hwf⟩
    · obtain ⟨ws', hs, hr⟩ := hg.ghost e h ((if_neg hE).symm.trans he)
      exact ⟨ws', (if_neg hE).trans hs, hr⟩

theorem GInv_auth : AuthInv H (fun _ => True) (GInv H) where
  congr := fun ⟨h1, h2, h3, h4⟩ hg => ⟨h1 ▸ h2 ▸ hg.fwd, h1 ▸ h2 ▸ hg.bwd, h1 ▸ h3 ▸ hg.range, h1 ▸ h4 ▸ hg.ghost⟩
  init := ⟨nofun, nofun, fun _ => ⟨nofun, fun h => absurd (Nat.le_trans h.1 h.2) (Nat.not_succ_le_zero 0)⟩, nofun⟩
  rotated := fun _ => GInv_rotated H

end Cgp.Proofs.C03
