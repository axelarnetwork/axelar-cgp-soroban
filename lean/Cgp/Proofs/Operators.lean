/-
  Lemmas about the operators model: when each entry point succeeds and with what (`_ok_iff`), and what one operation does
  (`Effect`, `step_effect`), from which the property files read off every per-step fact.
-/
import Cgp.Operators
namespace Cgp.Operators
open Cgp.Xdr

section
variable {st st' : State} {auths : List Addr} {a : Addr} {evs : List Event}

theorem addOperator_ok_iff : addOperator st auths a = .ok (st', evs) ↔
    st.owner ∈ auths ∧ st.isOp a = false ∧
    st' = { st with isOp := fun x => if x = a then true else st.isOp x } ∧ evs = [⟨[sym "operator_added", .addr a], .void⟩] := by
  rw [addOperator, guard_ok_iff, guard_ok_iff, Decidable.not_not, Bool.not_eq_true, Except.ok.injEq, Prod.mk.injEq]
  exact and_congr_right' (and_congr_right' (and_congr eq_comm eq_comm))

theorem removeOperator_ok_iff : removeOperator st auths a = .ok (st', evs) ↔
    st.owner ∈ auths ∧ st.isOp a = true ∧
    st' = { st with isOp := fun x => if x = a then false else st.isOp x } ∧ evs = [⟨[sym "operator_removed", .addr a], .void⟩] := by
  rw [removeOperator, guard_ok_iff, guard_ok_iff, Decidable.not_not, Bool.not_eq_true', Bool.not_eq_false, Except.ok.injEq,
    Prod.mk.injEq]
  exact and_congr_right' (and_congr_right' (and_congr eq_comm eq_comm))

theorem transferOwnership_ok_iff : transferOwnership st auths a = .ok (st', evs) ↔
    st.owner ∈ auths ∧ st' = { st with owner := a } ∧
    evs = [⟨[sym "ownership_transferred", .addr st.owner, .addr a], .vec .nil⟩] := by
  rw [transferOwnership, guard_ok_iff, Decidable.not_not, Except.ok.injEq, Prod.mk.injEq]
  exact and_congr_right' (and_congr eq_comm eq_comm)
end

theorem execute_ok_iff {τ : Type} {tgt : Target τ} {self : Addr} {st : State} {ts : τ} {auths : List Addr} {o c : Addr}
    {f : Bytes} {args : List ScVal} {r : τ × ScVal} :
    execute tgt self st ts auths o c f args = .ok r ↔
      o ∈ auths ∧ st.isOp o = true ∧ tgt ts ⟨c, f, args, self⟩ = some r := by
  fun_cases execute tgt self st ts auths o c f args <;> simp_all

inductive Effect {τ : Type} (tgt : Target τ) (w : World τ) : Op → World τ × Obs → Prop
  | refused (op : Op) (e : Err) : Effect tgt w op (w, .err e)
  | add {au a evs} (ho : w.st.owner ∈ au) (hn : w.st.isOp a = false) :
      Effect tgt w (.add au a)
        ({ w with st := { w.st with isOp := fun x => if x = a then true else w.st.isOp x } }, .ok evs)
  | remove {au a evs} (ho : w.st.owner ∈ au) (hm : w.st.isOp a = true) :
      Effect tgt w (.remove au a)
        ({ w with st := { w.st with isOp := fun x => if x = a then false else w.st.isOp x } }, .ok evs)
  | transferOwnership {au n evs} (ho : w.st.owner ∈ au) :
      Effect tgt w (.transferOwnership au n) ({ w with st := { w.st with owner := n } }, .ok evs)
  | execute {au o c f args ts' v} (ha : o ∈ au) (hm : w.st.isOp o = true)
      (ht : tgt w.ts ⟨c, f, args, w.self⟩ = some (ts', v)) :
      Effect tgt w (.execute au o c f args) ({ w with ts := ts' }, .value v)
  | upgradeMigrate {au} (ho : w.st.owner ∈ au) : Effect tgt w (.upgradeMigrate au) (w, .ok [])

theorem step_effect {τ : Type} (tgt : Target τ) (w : World τ) (op : Op) : Effect tgt w op (step tgt w op) := by
  cases op with simp only [step]
  | add au a =>
    cases h : addOperator w.st au a with
    | error e => exact .refused _ e
    | ok r => obtain ⟨st', evs⟩ := r; obtain ⟨h1, h2, rfl, -⟩ := addOperator_ok_iff.1 h; exact .add h1 h2
  | remove au a =>
    cases h : removeOperator w.st au a with
    | error e => exact .refused _ e
    | ok r => obtain ⟨st', evs⟩ := r; obtain ⟨h1, h2, rfl, -⟩ := removeOperator_ok_iff.1 h; exact .remove h1 h2
  | transferOwnership au n =>
    cases h : transferOwnership w.st au n with
    | error e => exact .refused _ e
    | ok r => obtain ⟨st', evs⟩ := r; obtain ⟨h1, rfl, -⟩ := transferOwnership_ok_iff.1 h; exact .transferOwnership h1
  | execute au o c f args =>
    cases h : execute tgt w.self w.st w.ts au o c f args with
    | error e => exact .refused _ e
    | ok r => obtain ⟨h1, h2, h3⟩ := execute_ok_iff.1 h; exact .execute h1 h2 h3
  | upgradeMigrate au =>
    split
    · next h => exact .upgradeMigrate h
    · exact .refused _ _

theorem step_upgradeMigrate_fst {τ : Type} {tgt : Target τ} {w : World τ} {au : List Addr} :
    (step tgt w (.upgradeMigrate au)).1 = w := by
  simp only [step]; split <;> rfl

theorem step_err {τ : Type} (tgt : Target τ) (w : World τ) (op : Op) (e : Err) (h : (step tgt w op).2 = .err e) :
    (step tgt w op).1 = w := by
  have he := step_effect tgt w op
  generalize step tgt w op = r at he h ⊢
  cases he with
  | refused => rfl
  | _ => cases h

theorem step_execute_err {τ : Type} (tgt : Target τ) {w : World τ} {au : List Addr} {o c : Addr} {f : Bytes} {args : List ScVal}
    (h : ∀ r, execute tgt w.self w.st w.ts au o c f args ≠ .ok r) :
    (step tgt w (.execute au o c f args)).1 = w ∧ ∃ e, (step tgt w (.execute au o c f args)).2 = .err e := by
  have he := step_effect tgt w (.execute au o c f args)
  generalize step tgt w (.execute au o c f args) = r at he ⊢
  cases he with
  | refused _ e => exact ⟨rfl, e, rfl⟩
  | execute ha hm ht => exact absurd (execute_ok_iff.2 ⟨ha, hm, ht⟩) (h _)

theorem run_cons {τ : Type} (tgt : Target τ) (w : World τ) (op : Op) (ops : List Op) :
    run tgt w (op :: ops) =
      ((run tgt (step tgt w op).1 ops).1, (step tgt w op).2 :: (run tgt (step tgt w op).1 ops).2) := rfl

end Cgp.Operators
