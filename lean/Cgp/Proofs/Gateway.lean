/-
  What each entry point of the gateway model does, said once: the conditions under which it succeeds and the state it then
  returns; `step` as a relation (`Effect`), so that a property looks only at the operations that concern it; and the
  induction principles for histories (`run`, `trace`) and for construction.
-/
import Cgp.GatewaySpec
import Cgp.Proofs.Run
namespace Cgp.Gateway
open Cgp.Xdr

theorem validateSignersLoop_ok_iff (l : List WSigner) (prev : Bytes) (total t : Nat) (ht : total < two128) :
    validateSignersLoop l prev total = .ok t ↔
      (List.Pairwise (fun a b => bytesLt a.key b.key = true) l ∧
       (∀ s ∈ l, bytesLt prev s.key = true) ∧
       (∀ s ∈ l, s.weight ≠ 0) ∧
       total + totalWeight l < two128 ∧ t = total + totalWeight l) := by
  induction l generalizing prev total with
  | nil =>
    refine ⟨fun h => ?_, fun h => h.2.2.2.2 ▸ rfl⟩
    cases h
    exact ⟨.nil, nofun, nofun, ht, rfl⟩
  | cons s rest ih =>
    rw [validateSignersLoop, guard_ok_iff, guard_ok_iff, guard_ok_iff, totalWeight, ← Nat.add_assoc,
      List.pairwise_cons, List.forall_mem_cons, List.forall_mem_cons, Bool.not_eq_true', Bool.not_eq_false]
    constructor
    · rintro ⟨h1, h2, h3, h⟩
      obtain ⟨hp, ha, hw, htot⟩ := (ih _ _ (Nat.not_le.mp h3)).mp h
      exact ⟨⟨ha, hp⟩, ⟨h1, fun x hx => bytesLt_trans h1 (ha x hx)⟩, ⟨h2, hw⟩, htot⟩
    · rintro ⟨⟨ha, hp⟩, ⟨h1, _⟩, ⟨h2, hw⟩, htot⟩
      have h3 : ¬ total + s.weight ≥ two128 := by omega
      exact ⟨h1, h2, h3, (ih _ _ (Nat.not_le.mp h3)).mpr ⟨hp, ha, hw, htot⟩⟩

theorem validateSigners_ok_iff {ws : WSigners} : validateSigners ws = .ok () ↔ WellFormed ws := by
  have hl := fun t => validateSignersLoop_ok_iff ws.signers zeroKey 0 t (by decide)
  simp only [Nat.zero_add] at hl
  unfold validateSigners WellFormed
  rw [guard_ok_iff, List.isEmpty_iff, ← ne_eq]
  cases h : validateSignersLoop ws.signers zeroKey 0 with
  | error e =>
    refine ⟨fun h' => (nomatch h'.2), ?_⟩
    rintro ⟨-, hp, ha, hw, htot, -⟩
    cases h.symm.trans ((hl _).mpr ⟨hp, ha, hw, htot, rfl⟩)
  | ok total =>
    obtain ⟨hp, ha, hw, htot, rfl⟩ := (hl total).mp h
    dsimp only
    rw [guard_ok_iff]
    constructor
    · rintro ⟨he, hth, -⟩; exact ⟨he, hp, ha, hw, htot, by omega⟩
    · rintro ⟨he, -, -, -, -, h1, h2⟩; exact ⟨he, by omega, rfl⟩

theorem WellFormed.threshold_pos {ws : WSigners} (h : WellFormed ws) : 0 < ws.threshold := h.2.2.2.2.2.1

variable {H : Bytes → Bytes} {σ : Type} {V : Bytes → Bytes → σ → Bool}

/-- `SigsOk` continued from a running total -/
def SigsFrom (V : Bytes → Bytes → σ → Bool) (digest : Bytes) (thr total : Nat) (ps : List (PSigner σ)) : Prop :=
  ∃ k, k ≤ ps.length ∧ AllSigsValid V digest (ps.take k) ∧
    thr ≤ total + signedWeight (ps.take k) ∧ total + signedWeight (ps.take k) < two128

theorem SigsFrom.lt {digest : Bytes} {thr total : Nat} {ps : List (PSigner σ)} (h : SigsFrom V digest thr total ps) :
    total < two128 :=
  h.elim fun _ h => Nat.lt_of_le_of_lt (Nat.le_add_right ..) h.2.2.2

theorem sigsFrom_cons (digest : Bytes) {thr total : Nat} (p : PSigner σ) (rest : List (PSigner σ)) (ht : total < thr) :
    SigsFrom V digest thr total (p :: rest) ↔
      (∀ s, p.sig = some s → V p.signer.key digest s = true) ∧
      SigsFrom V digest thr (total + if p.sig.isSome then p.signer.weight else 0) rest := by
  constructor
  · rintro ⟨k, hk, hv, h1, h2⟩
    cases k with
    | zero => exact absurd h1 (Nat.not_le.mpr ht)
    | succ k =>
      rw [List.take_succ_cons] at hv h1 h2
      exact ⟨hv p List.mem_cons_self, k, Nat.le_of_succ_le_succ hk, fun q hq => hv q (List.mem_cons_of_mem _ hq),
        Nat.add_assoc .. ▸ h1, Nat.add_assoc .. ▸ h2⟩
  · rintro ⟨hp, k, hk, hv, h1, h2⟩
    refine ⟨k + 1, Nat.succ_le_succ hk, ?_⟩
    rw [List.take_succ_cons]
    exact ⟨List.forall_mem_cons.mpr ⟨hp, hv⟩, Nat.add_assoc .. ▸ h1, Nat.add_assoc .. ▸ h2⟩

theorem validateSignaturesLoop_ok_iff (digest : Bytes) (thr : Nat) (ps : List (PSigner σ)) (total : Nat) (ht : total < thr) :
    validateSignaturesLoop V digest thr ps total = .ok true ↔ SigsFrom V digest thr total ps := by
  induction ps generalizing total with
  | nil =>
    refine ⟨nofun, fun ⟨k, _, _, h1, _⟩ => ?_⟩
    rw [List.take_nil] at h1
    exact absurd h1 (Nat.not_le.mpr ht)
  | cons p rest ih =>
    rw [sigsFrom_cons digest p rest ht]
    unfold validateSignaturesLoop
    cases hs : p.sig with
    | none => exact (ih total ht).trans (and_iff_right nofun).symm
    | some s =>
      simp only [Option.some.injEq, forall_eq', Option.isSome_some, if_true]
      rw [guard_ok_iff, guard_ok_iff, Bool.not_eq_true', Bool.not_eq_false, Nat.not_le]
      refine and_congr_right fun _ => ?_
      by_cases hthr : total + p.signer.weight ≥ thr
      · rw [if_pos hthr]
        exact ⟨fun h => ⟨0, Nat.zero_le _, nofun, hthr, h.1⟩, fun h => ⟨h.lt, rfl⟩⟩
      · rw [if_neg hthr, ih _ (Nat.not_le.mp hthr)]
        exact and_iff_right_of_imp SigsFrom.lt

theorem validateSignatures_ok_iff {digest : Bytes} {thr : Nat} {ps : List (PSigner σ)} (hthr : 0 < thr) :
    validateSignaturesLoop V digest thr ps 0 = .ok true ↔ SigsOk V digest thr ps := by
  rw [validateSignaturesLoop_ok_iff digest thr ps 0 hthr]
  simp only [SigsFrom, SigsOk, Nat.zero_add]

theorem validateProof_ok_iff {st : State} {dh : Bytes} {proof : Proof σ} {b : Bool} :
    validateProof H V st dh proof = .ok b ↔
      ∃ e, st.epochByHash (signersHash H proof.weightedSigners) = some e ∧ e ≤ st.epoch ∧
        st.epoch - e ≤ st.retention ∧
        validateSignaturesLoop V (messageHashToSign H st.domain (signersHash H proof.weightedSigners) dh)
          proof.threshold proof.signers 0 = .ok true ∧ b = (e == st.epoch) := by
  unfold validateProof
  dsimp only
  cases st.epochByHash (signersHash H proof.weightedSigners) with
  | none => simp
  | some e =>
    simp only [Option.some.injEq, exists_eq_left', guard_ok_iff, Nat.not_lt]
    cases validateSignaturesLoop V _ proof.threshold proof.signers 0 with
    | error e => simp
    | ok r => cases r <;> simp [eq_comm]

theorem validateProof_latest {st : State} {dh : Bytes} {proof : Proof σ} {b : Bool}
    (h : validateProof H V st dh proof = .ok b) :
    (b = true ↔ st.epochByHash (signersHash H proof.weightedSigners) = some st.epoch) := by
  obtain ⟨e, he, _, _, _, hb⟩ := validateProof_ok_iff.mp h
  rw [he, hb]
  simp

def rotated (H : Bytes → Bytes) (st : State) (ws : WSigners) (now : Nat) : State :=
  { st with
    lastRot := some now
    epoch := st.epoch + 1
    hashByEpoch := fun e => if e = st.epoch + 1 then some (signersHash H ws) else st.hashByEpoch e
    epochByHash := fun x => if x = signersHash H ws then some (st.epoch + 1) else st.epochByHash x
    setAt := fun e => if e = st.epoch + 1 then some ws else st.setAt e }

theorem rotateSignersInner_ok_iff {st : State} {ws : WSigners} {enforce : Bool} {now : Nat} {r : State × Event} :
    rotateSignersInner H st ws enforce now = .ok r ↔
      (WellFormed ws ∧
       (enforce = true → st.lastRot.getD 0 ≤ now ∧ st.minDelay ≤ now - st.lastRot.getD 0) ∧
       st.epochByHash (signersHash H ws) = none ∧
       r = (rotated H st ws now, evRotated (st.epoch + 1) (signersHash H ws))) := by
  unfold rotateSignersInner
  rw [← validateSigners_ok_iff]
  cases validateSigners ws with
  | error e => simp
  | ok u =>
    dsimp only
    rw [guard_ok_iff, guard_ok_iff, guard_ok_iff, Except.ok.injEq, @eq_comm _ _ r]
    -- the two delay guards as one implication; the post-state is `rotated` by unfolding
    simp only [not_and, Nat.not_lt, Option.not_isSome_iff_eq_none, true_and, imp_and, and_assoc]
    rfl

theorem rotateSigners_ok_iff {st : State} {auths : List Addr} {ws : WSigners} {proof : Proof σ} {bypass : Bool}
    {now : Nat} {r : State × List Event} :
    rotateSigners H V st auths ws proof bypass now = .ok r ↔
      ((bypass = true → st.operator ∈ auths) ∧
       (∃ b, validateProof H V st (rotateDataHash H ws) proof = .ok b ∧ (bypass = false → b = true)) ∧
       WellFormed ws ∧
       (bypass = false → st.lastRot.getD 0 ≤ now ∧ st.minDelay ≤ now - st.lastRot.getD 0) ∧
       st.epochByHash (signersHash H ws) = none ∧
       r = (rotated H st ws now, [evRotated (st.epoch + 1) (signersHash H ws)])) := by
  constructor
  · fun_cases rotateSigners H V st auths ws proof bypass now <;> intro h <;> cases h
    rename_i h1 b hb h2 _ _ hi
    obtain ⟨hwf, hd, hn, ⟨⟩⟩ := rotateSignersInner_ok_iff.mp hi
    exact ⟨fun hbp => Decidable.not_not.mp fun hn => h1 ⟨hbp, hn⟩, ⟨b, hb, fun hbp => by simpa [hbp] using h2⟩,
      hwf, fun hbp => hd (by simp [hbp]), hn, rfl⟩
  · rintro ⟨h1, ⟨b, hb, hl⟩, hwf, hd, hn, rfl⟩
    have hi := (rotateSignersInner_ok_iff (enforce := !bypass)).mpr ⟨hwf, fun hbp => hd (by simpa using hbp), hn, rfl⟩
    unfold rotateSigners
    rw [if_neg fun h => h.2 (h1 h.1), hb]
    dsimp only
    rw [if_neg (by cases bypass <;> simp [hl]), hi]

theorem approveMessages_ok_iff {st : State} {ms : List Message} {proof : Proof σ} {r : State × List Event} :
    approveMessages H V st ms proof = .ok r ↔
      (∃ b, validateProof H V st (approveDataHash H ms) proof = .ok b) ∧ ms ≠ [] ∧ r = approveLoop H ms st := by
  unfold approveMessages
  cases validateProof H V st (approveDataHash H ms) proof with
  | error e => simp
  | ok b => cases ms <;> simp [eq_comm]

def consumed (st : State) (c i : Bytes) : State :=
  { st with approvals := fun c' i' => if c' = c ∧ i' = i then .executed else st.approvals c' i' }

theorem consumed_self (st : State) (c i : Bytes) : (consumed st c i).approvals c i = .executed := if_pos ⟨rfl, rfl⟩

theorem consumed_other {st : State} {c i c' i' : Bytes} (h : ¬ (c' = c ∧ i' = i)) :
    (consumed st c i).approvals c' i' = st.approvals c' i' := if_neg h

theorem consumed_approved {st : State} {c i c' i' h : Bytes} (h1 : (consumed st c i).approvals c' i' = .approved h) :
    st.approvals c' i' = .approved h := by
  by_cases hci : c' = c ∧ i' = i
  · obtain ⟨rfl, rfl⟩ := hci
    cases (consumed_self st c' i').symm.trans h1
  · exact (consumed_other hci).symm.trans h1

theorem validateMessage_eq {st : State} {auths : List Addr} {caller : Addr} {c i sa ph : Bytes} (ha : caller ∈ auths) :
    validateMessage H st auths caller c i sa ph =
      if st.approvals c i = .approved (messageHash H ⟨c, i, sa, caller, ph⟩)
      then .ok (consumed st c i, true, [evExecuted ⟨c, i, sa, caller, ph⟩]) else .ok (st, false, []) := by
  simp [validateMessage, consumed, ha]

theorem validateMessage_ok_iff {st : State} {auths : List Addr} {caller : Addr} {c i sa ph : Bytes}
    {r : State × Bool × List Event} :
    validateMessage H st auths caller c i sa ph = .ok r ↔
      caller ∈ auths ∧
      (st.approvals c i = .approved (messageHash H ⟨c, i, sa, caller, ph⟩) ∧
          r = (consumed st c i, true, [evExecuted ⟨c, i, sa, caller, ph⟩]) ∨
       st.approvals c i ≠ .approved (messageHash H ⟨c, i, sa, caller, ph⟩) ∧ r = (st, false, [])) := by
  by_cases ha : caller ∈ auths
  · rw [validateMessage_eq ha]
    split <;> simp [*, @eq_comm _ r]
  · simp [validateMessage, ha]

theorem callContract_ok_iff {st : State} {auths : List Addr} {caller : Addr} {chain dest payload : Bytes}
    {r : State × List Event} :
    callContract H st auths caller chain dest payload = .ok r ↔
      caller ∈ auths ∧ r = (st, [⟨[.sym symContractCalled, .addr caller, .str chain, .str dest, .bytes (H payload)],
        .bytes payload⟩]) := by
  rw [callContract, guard_ok_iff, Decidable.not_not, Except.ok.injEq, eq_comm]

theorem transferOwnership_ok_iff {st : State} {auths : List Addr} {new : Addr} {r : State × List Event} :
    transferOwnership st auths new = .ok r ↔
      st.owner ∈ auths ∧ r = ({ st with owner := new },
        [⟨[.sym symOwnershipTransferred, .addr st.owner, .addr new], .vec .nil⟩]) := by
  rw [transferOwnership, guard_ok_iff, Decidable.not_not, Except.ok.injEq, eq_comm]

theorem transferOperatorship_ok_iff {st : State} {auths : List Addr} {new : Addr} {r : State × List Event} :
    transferOperatorship st auths new = .ok r ↔
      st.operator ∈ auths ∧ r = ({ st with operator := new },
        [⟨[.sym symOperatorshipTransferred, .addr st.operator, .addr new], .vec .nil⟩]) := by
  rw [transferOperatorship, guard_ok_iff, Decidable.not_not, Except.ok.injEq, eq_comm]

theorem initSets_cons_ok {now : Nat} {ws : WSigners} {rest : List WSigners} {st st'' : State} {evs : List Event}
    (h : initSets H now (ws :: rest) st = .ok (st'', evs)) :
    WellFormed ws ∧ st.epochByHash (signersHash H ws) = none ∧
    ∃ evs', initSets H now rest (rotated H st ws now) = .ok (st'', evs') := by
  unfold initSets at h
  split at h
  · cases h
  · obtain ⟨hwf, -, hn, ⟨⟩⟩ := rotateSignersInner_ok_iff.mp ‹_›
    split at h
    · cases h
    · cases h; exact ⟨hwf, hn, _, ‹_›⟩

theorem initSets_epoch {now : Nat} {sets : List WSigners} {st st' : State} {evs : List Event}
    (h : initSets H now sets st = .ok (st', evs)) : st'.epoch = st.epoch + sets.length := by
  induction sets generalizing st evs with
  | nil => cases h; rfl
  | cons ws rest ih =>
    obtain ⟨_, _, evs', hr⟩ := initSets_cons_ok h
    exact (ih hr).trans (Nat.add_right_comm ..)

theorem initSets_distinct {now : Nat} {sets : List WSigners} {st st' : State} {evs : List Event}
    (h : initSets H now sets st = .ok (st', evs)) :
    (∀ ws ∈ sets, WellFormed ws) ∧
    List.Pairwise (fun a b => signersHash H a ≠ signersHash H b) sets ∧
    (∀ ws ∈ sets, st.epochByHash (signersHash H ws) = none) := by
  induction sets generalizing st evs with
  | nil => simp
  | cons ws rest ih =>
    obtain ⟨hwf, hn, evs', hr⟩ := initSets_cons_ok h
    obtain ⟨h1, h2, h3⟩ := ih hr
    have key : ∀ x ∈ rest, signersHash H ws ≠ signersHash H x ∧ st.epochByHash (signersHash H x) = none := fun x hx => by
      have : (if signersHash H x = signersHash H ws then _ else st.epochByHash (signersHash H x)) = none := h3 x hx
      split at this
      · cases this
      · exact ⟨Ne.symm ‹_›, this⟩
    exact ⟨List.forall_mem_cons.mpr ⟨hwf, h1⟩, List.pairwise_cons.mpr ⟨fun x hx => (key x hx).1, h2⟩,
      List.forall_mem_cons.mpr ⟨hn, fun x hx => (key x hx).2⟩⟩

theorem construct_ok_iff {owner operator : Addr} {domain : Bytes} {minDelay retention : Nat} {sets : List WSigners}
    {now : Nat} {r : State × List Event} :
    construct H owner operator domain minDelay retention sets now = .ok r ↔
      sets ≠ [] ∧ initSets H now sets (initState owner operator domain minDelay retention) = .ok r := by
  rw [construct, guard_ok_iff, List.isEmpty_iff]

theorem constructed_iff {owner operator : Addr} {domain : Bytes} {minDelay retention : Nat} {sets : List WSigners}
    {now : Nat} {w0 : World} :
    constructed H owner operator domain minDelay retention sets now = some w0 ↔
      w0.now = now ∧ ∃ evs, construct H owner operator domain minDelay retention sets now = .ok (w0.st, evs) := by
  unfold constructed
  cases construct H owner operator domain minDelay retention sets now with
  | error e => simp
  | ok r => exact ⟨fun h => by cases h; exact ⟨rfl, r.2, rfl⟩, fun ⟨hn, evs, h⟩ => by cases h; cases hn; rfl⟩

variable (H) (V)

theorem initSets_induction {P : State → Prop} {now : Nat} {sets : List WSigners} {st st' : State} {evs : List Event}
    (h : initSets H now sets st = .ok (st', evs)) (h0 : P st)
    (hrot : ∀ st ws, ws ∈ sets → WellFormed ws → st.epochByHash (signersHash H ws) = none → P st →
      P (rotated H st ws now)) : P st' := by
  induction sets generalizing st evs with
  | nil => cases h; exact h0
  | cons ws rest ih =>
    obtain ⟨hwf, hn, evs', hr⟩ := initSets_cons_ok h
    exact ih hr (hrot st ws List.mem_cons_self hwf hn h0) (fun st x hx => hrot st x (List.mem_cons_of_mem _ hx))

theorem construct_induction {P : State → Prop} {owner operator : Addr} {domain : Bytes} {minDelay retention : Nat}
    {sets : List WSigners} {now : Nat} {st : State} {evs : List Event}
    (h : construct H owner operator domain minDelay retention sets now = .ok (st, evs))
    (h0 : P (initState owner operator domain minDelay retention))
    (hrot : ∀ st ws, ws ∈ sets → WellFormed ws → st.epochByHash (signersHash H ws) = none → P st →
      P (rotated H st ws now)) :
    P st ∧ ∃ st' ws, st = rotated H st' ws now := by
  obtain ⟨hne, h⟩ := construct_ok_iff.mp h
  cases sets with
  | nil => exact absurd rfl hne
  | cons ws rest =>
    obtain ⟨hwf, hn, evs', hr⟩ := initSets_cons_ok h
    exact initSets_induction H (P := fun st => P st ∧ ∃ st' ws, st = rotated H st' ws now) hr
      ⟨hrot _ ws List.mem_cons_self hwf hn h0, _, _, rfl⟩
      (fun st x hx hwf hn hp => ⟨hrot st x (List.mem_cons_of_mem _ hx) hwf hn hp.1, _, _, rfl⟩)

theorem constructed_no_approvals {owner operator : Addr} {domain : Bytes} {minDelay retention : Nat} {sets : List WSigners}
    {now : Nat} {w0 : World} (hc : constructed H owner operator domain minDelay retention sets now = some w0) (c i : Bytes) :
    w0.st.approvals c i = .notApproved := by
  obtain ⟨_, evs, h⟩ := constructed_iff.mp hc
  exact (construct_induction H (P := fun st => st.approvals c i = .notApproved) h rfl (fun _ _ _ _ _ h => h)).1

def setApproved (st : State) (m : Message) : State :=
  { st with approvals := fun c i =>
      if c = m.sourceChain ∧ i = m.messageId then .approved (messageHash H m) else st.approvals c i }

theorem setApproved_self (st : State) (m : Message) :
    (setApproved H st m).approvals m.sourceChain m.messageId = .approved (messageHash H m) := if_pos ⟨rfl, rfl⟩

theorem setApproved_other {st : State} {m : Message} {c i : Bytes} (h : ¬ (c = m.sourceChain ∧ i = m.messageId)) :
    (setApproved H st m).approvals c i = st.approvals c i := if_neg h

theorem approveLoop_known {st : State} {m : Message} (rest : List Message)
    (hk : st.approvals m.sourceChain m.messageId ≠ .notApproved) :
    approveLoop H (m :: rest) st = approveLoop H rest st := by
  simp only [approveLoop, hk, ne_eq, not_false_eq_true, if_true]

theorem approveLoop_fresh {st : State} {m : Message} (rest : List Message)
    (hk : st.approvals m.sourceChain m.messageId = .notApproved) :
    approveLoop H (m :: rest) st =
      ((approveLoop H rest (setApproved H st m)).1, evApproved m :: (approveLoop H rest (setApproved H st m)).2) := by
  simp only [approveLoop, hk, ne_eq, not_true_eq_false, if_false, setApproved]

theorem approveLoop_frame (ms : List Message) (st : State) :
    (approveLoop H ms st).1 = { st with approvals := (approveLoop H ms st).1.approvals } := by
  induction ms generalizing st with
  | nil => rfl
  | cons m rest ih =>
    by_cases hk : st.approvals m.sourceChain m.messageId = .notApproved
    · rw [approveLoop_fresh H rest hk]; exact ih _
    · rw [approveLoop_known H rest hk]; exact ih st

theorem approveLoop_approvals (ms : List Message) (st : State) (c i : Bytes) :
    (approveLoop H ms st).1.approvals c i = st.approvals c i ∨
    (st.approvals c i = .notApproved ∧ ∃ m ∈ ms, m.sourceChain = c ∧ m.messageId = i ∧
      (approveLoop H ms st).1.approvals c i = .approved (messageHash H m)) := by
  induction ms generalizing st with
  | nil => exact Or.inl rfl
  | cons m rest ih =>
    by_cases hk : st.approvals m.sourceChain m.messageId = .notApproved
    · rw [approveLoop_fresh H rest hk]
      by_cases hci : c = m.sourceChain ∧ i = m.messageId
      · obtain ⟨rfl, rfl⟩ := hci
        rcases ih (setApproved H st m) with h | ⟨h, _⟩
        · exact Or.inr ⟨hk, m, List.mem_cons_self, rfl, rfl, h.trans (setApproved_self H st m)⟩
        · cases (setApproved_self H st m).symm.trans h
      · rcases ih (setApproved H st m) with h | ⟨h, m', hm', hr⟩
        · exact Or.inl (h.trans (setApproved_other H hci))
        · exact Or.inr ⟨setApproved_other H hci ▸ h, m', List.mem_cons_of_mem _ hm', hr⟩
    · rw [approveLoop_known H rest hk]
      exact (ih st).imp_right fun ⟨h, m', hm', hr⟩ => ⟨h, m', List.mem_cons_of_mem _ hm', hr⟩

theorem approveLoop_known_key (ms : List Message) (st : State) (c i : Bytes)
    (hk : st.approvals c i ≠ .notApproved) :
    (approveLoop H ms st).1.approvals c i = st.approvals c i :=
  (approveLoop_approvals H ms st c i).resolve_right fun h => hk h.1

theorem approveLoop_events (ms : List Message) (st : State) (ev : Event) (hev : ev ∈ (approveLoop H ms st).2) :
    ∃ m, m ∈ ms ∧ st.approvals m.sourceChain m.messageId = .notApproved ∧ ev = evApproved m := by
  induction ms generalizing st with
  | nil => cases hev
  | cons m rest ih =>
    by_cases hk : st.approvals m.sourceChain m.messageId = .notApproved
    · rw [approveLoop_fresh H rest hk] at hev
      rcases List.mem_cons.mp hev with h | h
      · exact ⟨m, List.mem_cons_self, hk, h⟩
      · obtain ⟨m', hm', hst, he⟩ := ih _ h
        refine ⟨m', List.mem_cons_of_mem _ hm', ?_, he⟩
        by_cases hci : m'.sourceChain = m.sourceChain ∧ m'.messageId = m.messageId
        · rw [hci.1, hci.2, setApproved_self] at hst; cases hst
        · exact (setApproved_other H hci).symm.trans hst
    · rw [approveLoop_known H rest hk] at hev
      obtain ⟨m', hm', hst, he⟩ := ih _ hev
      exact ⟨m', List.mem_cons_of_mem _ hm', hst, he⟩

/-- `step` said as a relation, every post-state in the form "the old one with these fields replaced", so that after `cases` a
    field the operation does not write is unchanged by `rfl`.  All guards and events are written out (the `Effect`s of the
    other models keep only the guards their properties read and mostly leave the events free).  `refused` records that the
    operation is not `setTime` (which cannot fail): functions that fold over a history look at `setTime` whatever was
    observed of it. -/
inductive Effect (w : World) : Op σ → World × Obs → Prop
  | refused (op : Op σ) (e : Err) (hop : ∀ t, op ≠ .setTime t) : Effect w op (w, .err e)
  | approve {ms proof b}
      (hv : validateProof H V w.st (approveDataHash H ms) proof = .ok b) (hne : ms ≠ []) :
      Effect w (.approve ms proof)
        ({ w with st := { w.st with approvals := (approveLoop H ms w.st).1.approvals } }, .ok (approveLoop H ms w.st).2)
  | rotate {auths ws proof bypass b}
      (hop : bypass = true → w.st.operator ∈ auths)
      (hv : validateProof H V w.st (rotateDataHash H ws) proof = .ok b) (hl : bypass = false → b = true)
      (hwf : WellFormed ws)
      (hd : bypass = false → w.st.lastRot.getD 0 ≤ w.now ∧ w.st.minDelay ≤ w.now - w.st.lastRot.getD 0)
      (hn : w.st.epochByHash (signersHash H ws) = none) :
      Effect w (.rotate auths ws proof bypass)
        ({ w with st := rotated H w.st ws w.now }, .ok [evRotated (w.st.epoch + 1) (signersHash H ws)])
  | consume {auths caller c i sa ph} (ha : caller ∈ auths)
      (hr : w.st.approvals c i = .approved (messageHash H ⟨c, i, sa, caller, ph⟩)) :
      Effect w (.validateMessage auths caller c i sa ph)
        ({ w with st := consumed w.st c i }, .okBool true [evExecuted ⟨c, i, sa, caller, ph⟩])
  | decline {auths caller c i sa ph} (ha : caller ∈ auths)
      (hr : w.st.approvals c i ≠ .approved (messageHash H ⟨c, i, sa, caller, ph⟩)) :
      Effect w (.validateMessage auths caller c i sa ph) (w, .okBool false [])
  | callContract {auths caller chain dest payload} (ha : caller ∈ auths) :
      Effect w (.callContract auths caller chain dest payload)
        (w, .ok [⟨[.sym symContractCalled, .addr caller, .str chain, .str dest, .bytes (H payload)], .bytes payload⟩])
  | transferOwnership {auths new} (ha : w.st.owner ∈ auths) :
      Effect w (.transferOwnership auths new)
        ({ w with st := { w.st with owner := new } },
         .ok [⟨[.sym symOwnershipTransferred, .addr w.st.owner, .addr new], .vec .nil⟩])
  | transferOperatorship {auths new} (ha : w.st.operator ∈ auths) :
      Effect w (.transferOperatorship auths new)
        ({ w with st := { w.st with operator := new } },
         .ok [⟨[.sym symOperatorshipTransferred, .addr w.st.operator, .addr new], .vec .nil⟩])
  | setTime (now : Nat) : Effect w (.setTime now) ({ w with now := now }, .ok [])
  | upgrade {auths} (ha : w.st.owner ∈ auths) :
      Effect w (.upgrade auths) ({ w with st := { w.st with migrating := true } }, .ok [])
  | migrate {auths} (ha : w.st.owner ∈ auths) (hm : w.st.migrating = true) :
      Effect w (.migrate auths) ({ w with st := { w.st with migrating := false } }, .ok [])

/-- `step` refines `Effect`.  To analyse a step: `have h := step_effect H V w op`, `generalize step H V w op = r at h ⊢`
    (naming also every hypothesis that mentions the step), `cases h`. -/
theorem step_effect (w : World) (op : Op σ) : Effect H V w op (step H V w op) := by
  cases op with
  | approve ms proof =>
    simp only [step]
    cases h : approveMessages H V w.st ms proof with
    | error e => exact .refused _ e nofun
    | ok r =>
      obtain ⟨⟨b, hb⟩, hne, rfl⟩ := approveMessages_ok_iff.mp h
      dsimp only
      rw [approveLoop_frame]
      exact .approve hb hne
  | rotate auths ws proof bypass =>
    simp only [step]
    cases h : rotateSigners H V w.st auths ws proof bypass w.now with
    | error e => exact .refused _ e nofun
    | ok r =>
      obtain ⟨hop, ⟨b, hb, hl⟩, hwf, hd, hn, rfl⟩ := rotateSigners_ok_iff.mp h
      exact .rotate hop hb hl hwf hd hn
  | validateMessage auths caller c i sa ph =>
    simp only [step]
    cases h : validateMessage H w.st auths caller c i sa ph with
    | error e => exact .refused _ e nofun
    | ok r =>
      obtain ⟨ha, ⟨hr, rfl⟩ | ⟨hr, rfl⟩⟩ := validateMessage_ok_iff.mp h
      · exact .consume ha hr
      · exact .decline ha hr
  | callContract auths caller chain dest payload =>
    simp only [step]
    cases h : callContract H w.st auths caller chain dest payload with
    | error e => exact .refused _ e nofun
    | ok r =>
      obtain ⟨ha, rfl⟩ := callContract_ok_iff.mp h
      exact .callContract ha
  | transferOwnership auths new =>
    simp only [step]
    cases h : transferOwnership w.st auths new with
    | error e => exact .refused _ e nofun
    | ok r =>
      obtain ⟨ha, rfl⟩ := transferOwnership_ok_iff.mp h
      exact .transferOwnership ha
  | transferOperatorship auths new =>
    simp only [step]
    cases h : transferOperatorship w.st auths new with
    | error e => exact .refused _ e nofun
    | ok r =>
      obtain ⟨ha, rfl⟩ := transferOperatorship_ok_iff.mp h
      exact .transferOperatorship ha
  | setTime now => exact .setTime now
  | upgrade auths =>
    simp only [step]
    split
    · exact .upgrade ‹_›
    · exact .refused _ _ nofun
  | migrate auths =>
    simp only [step]
    split
    · exact .refused _ _ nofun
    · split
      · exact .migrate (Decidable.not_not.mp ‹_›) ‹_›
      · exact .refused _ _ nofun

theorem step_err (w : World) (op : Op σ) (e : Err) (h : (step H V w op).2 = .err e) : (step H V w op).1 = w := by
  have he := step_effect H V w op
  generalize step H V w op = r at he h
  cases he with
  | refused => rfl
  | _ => cases h

theorem step_admin_fst (w : World) (op : Op σ) (hop : (∃ a, op = .upgrade a) ∨ ∃ a, op = .migrate a) :
    ∃ b, (step H V w op).1 = { w with st := { w.st with migrating := b } } := by
  have h := step_effect H V w op
  generalize step H V w op = r at h ⊢
  cases h with
  | refused => exact ⟨w.st.migrating, rfl⟩
  | upgrade => exact ⟨true, rfl⟩
  | migrate => exact ⟨false, rfl⟩
  | _ => rcases hop with ⟨_, h⟩ | ⟨_, h⟩ <;> cases h

theorem run_cons (w : World) (op : Op σ) (ops : List (Op σ)) :
    run H V w (op :: ops) =
      ((run H V (step H V w op).1 ops).1, (step H V w op).2 :: (run H V (step H V w op).1 ops).2) := rfl

theorem run_inv {I : World → Prop} (hI : ∀ w op, I w → I (step H V w op).1) (ops : List (Op σ)) (w : World)
    (hw : I w) : I (run H V w ops).1 :=
  Run.invariant (fun w op => (step H V w op).1) (fun w ops => (run H V w ops).1) (fun _ => rfl) (fun _ _ _ => rfl)
    I hI ops w hw

/-- `Run.origin` for the gateway.  The five predicates are not inferred: give all by name, `fun _ => True` / `False` where not
    needed (see `Props.C02.executed_was_consumed`). -/
theorem trace_origin {I F : World → Prop} {T : Op σ → Prop} {G : World × Op σ × Obs → Prop} {C : Prop}
    (hI : ∀ w op, T op → I w → I (step H V w op).1)
    (hF : ∀ w op, T op → I w → F (step H V w op).1 → F w ∨ G (w, op, (step H V w op).2) ∨ C)
    (ops : List (Op σ)) (w : World) (hw : I w) (hT : ∀ op ∈ ops, T op) (hfin : F (run H V w ops).1) :
    F w ∨ (∃ x ∈ trace H V w ops, G x) ∨ C :=
  Run.origin (fun w op => (step H V w op).1) (fun w op => (step H V w op).2) (trace H V) (fun _ _ _ => rfl)
    (fun w ops => (run H V w ops).1) (fun _ => rfl) (fun _ _ _ => rfl) hI hF ops w hw hT hfin

end Cgp.Gateway
