/-
  The balances of the token service's ledger. `Eff st st' δ` says that `st'` is `st` with every balance
  moved by exactly `δ`; it is established once per ledger primitive, composes along a call, and frames, sums over holders
  and non-negativity are read off it by lemmas that are general in `δ`.
-/
import Cgp.Proofs.Its

namespace Cgp

theorem sum_map_add {α : Type} (f g : α → Int) (l : List α) :
    (l.map fun y => f y + g y).sum = (l.map f).sum + (l.map g).sum := by
  induction l with
  | nil => rfl
  | cons y ys ih => simp only [List.map_cons, List.sum_cons, ih]; omega

theorem sum_map_zero {α : Type} (l : List α) : (l.map fun _ => (0 : Int)).sum = 0 := by
  rw [List.map_const', List.sum_replicate_int, Int.mul_zero]

theorem sum_map_point {α : Type} [DecidableEq α] {l : List α} (hnd : l.Nodup) (x : α) (d : Int) :
    (l.map fun y => if y = x then d else 0).sum = if x ∈ l then d else 0 := by
  induction l with
  | nil => rfl
  | cons y ys ih =>
    obtain ⟨hy, hys⟩ := List.nodup_cons.mp hnd
    simp only [List.map_cons, List.sum_cons, ih hys, List.mem_cons]
    by_cases e : y = x
    · subst e; simp [hy]
    · have e' : ¬ x = y := fun h => e h.symm
      simp [e, e']

end Cgp

namespace Cgp.Proofs.C05

/-- same body as `Props.C05.TokNonNeg`; stated here because `Proofs.C05.FK`, which `Props.C05` imports, mentions it -/
def NN (st : Its.State) : Prop := ∀ a t h', st.tokens a = some t → 0 ≤ t.bal h'

end Cgp.Proofs.C05

namespace Cgp.Its
open Cgp.Xdr
open Cgp.Proofs.C05 (NN)

theorem balOf_setTok (st : State) (token a x : Addr) (t' : Tok) :
    balOf (setTok st token t') a x = if a = token then t'.bal x else balOf st a x := by
  unfold balOf
  by_cases e : a = token
  · rw [if_pos e, e, setTok_self]
  · rw [if_neg e, setTok_other e]

theorem balOf_of_tokens {st : State} {token : Addr} {t : Tok} (ht : st.tokens token = some t) (x : Addr) :
    balOf st token x = t.bal x := by
  unfold balOf; rw [ht]

theorem balOf_of_none {st : State} {token : Addr} (ht : st.tokens token = none) (x : Addr) : balOf st token x = 0 := by
  unfold balOf; rw [ht]

def pt (token who : Addr) (amt : Int) (a x : Addr) : Int := if a = token ∧ x = who then amt else 0

theorem pt_ne_holder {token who : Addr} {amt : Int} {a x : Addr} (h : who ≠ x) : pt token who amt a x = 0 :=
  if_neg fun e => h e.2.symm

theorem pt_ne_token {token who : Addr} {amt : Int} {a x : Addr} (h : a ≠ token) : pt token who amt a x = 0 :=
  if_neg fun e => h e.1

theorem sum_pt (token who : Addr) (amt : Int) (a : Addr) {hs : List Addr} (hnd : hs.Nodup) :
    (hs.map (pt token who amt a)).sum = if a = token ∧ who ∈ hs then amt else 0 := by
  unfold pt
  by_cases e : a = token
  · simp only [e, true_and]
    exact sum_map_point hnd who amt
  · simp only [e, false_and, if_false]
    exact sum_map_zero hs

def move (token src dst : Addr) (amt : Int) (a x : Addr) : Int := pt token src (-amt) a x + pt token dst amt a x

theorem move_ne {token src dst : Addr} {amt : Int} {a x : Addr} (h1 : src ≠ x) (h2 : dst ≠ x) :
    move token src dst amt a x = 0 := by
  unfold move; rw [pt_ne_holder h1, pt_ne_holder h2]; rfl

theorem move_sum (token src dst : Addr) (amt : Int) (a : Addr) {hs : List Addr} (hnd : hs.Nodup) (hsrc : src ∈ hs)
    (hdst : dst ∈ hs) : (hs.map (move token src dst amt a)).sum = 0 := by
  unfold move
  rw [sum_map_add, sum_pt _ _ _ _ hnd, sum_pt _ _ _ _ hnd]
  simp only [hsrc, hdst, and_true]
  split <;> omega

structure Eff (st st' : State) (δ : Addr → Addr → Int) : Prop where
  nn : NN st → NN st'
  bal : ∀ a x, balOf st' a x = balOf st a x + δ a x

namespace Eff
variable {st st1 st2 : State} {δ δ' : Addr → Addr → Int}

theorem refl : Eff st st fun _ _ => 0 := ⟨id, fun _ _ => (Int.add_zero _).symm⟩

theorem trans (h1 : Eff st st1 δ) (h2 : Eff st1 st2 δ') : Eff st st2 fun a x => δ a x + δ' a x :=
  ⟨fun h => h2.nn (h1.nn h), fun a x => by rw [h2.bal, h1.bal, Int.add_assoc]⟩

theorem tokens {a b : State} (h : Eff st st1 δ) (ha : a.tokens = st.tokens) (hb : b.tokens = st1.tokens) : Eff a b δ :=
  ⟨fun hn x t y hx => h.nn (fun x t y hx => hn x t y (ha ▸ hx)) x t y (hb ▸ hx),
   fun x y => by have := h.bal x y; unfold balOf at this ⊢; rw [ha, hb]; exact this⟩

theorem setTok {token : Addr} {t' : Tok} (hb : ∀ x, t'.bal x = balOf st token x + δ token x)
    (h0 : ∀ a x, a ≠ token → δ a x = 0) (hnn : NN st → ∀ x, 0 ≤ t'.bal x) : Eff st (setTok st token t') δ := by
  refine ⟨fun h b tb x hb' => ?_, fun a x => ?_⟩
  · by_cases e : b = token
    · rw [e, setTok_self] at hb'
      cases hb'
      exact hnn h x
    · rw [setTok_other e] at hb'
      exact h b tb x hb'
  · rw [balOf_setTok]
    by_cases e : a = token
    · rw [if_pos e, e, hb]
    · rw [if_neg e, h0 a x e, Int.add_zero]

theorem sum (h : Eff st st1 δ) (a : Addr) (hs : List Addr) :
    (hs.map (balOf st1 a)).sum = (hs.map (balOf st a)).sum + (hs.map (δ a)).sum := by
  rw [← sum_map_add]
  exact congrArg List.sum (List.map_congr_left fun x _ => h.bal a x)

end Eff

/-! ### the ledger primitives: each is one or two `bump`s of one token's balances -/

theorem bump_eff {st : State} {token : Addr} {t : Tok} (ht : st.tokens token = some t) (p : Addr) (d : Int)
    (hnn : (∀ x, 0 ≤ t.bal x) → 0 ≤ t.bal p + d) :
    Eff st (setTok st token { t with bal := bump t.bal p d }) (pt token p d) := by
  refine Eff.setTok (fun x => ?_) (fun a x e => pt_ne_token e) (fun hn x => ?_)
  · rw [balOf_of_tokens ht]
    simp only [bump_apply, pt, true_and]
  · have hn' := fun y => hn token t y ht
    show 0 ≤ if x = p then t.bal p + d else t.bal x
    split
    · exact hnn hn'
    · exact hn' x

theorem tokTransfer_eff {st st' : State} {token src dst : Addr} {amount : Int} {au : Bool}
    (h : tokTransfer st token src dst amount au = .ok st') :
    Eff st st' (move token src dst amount) := by
  obtain ⟨t, ht, -, ham, hle, -, rfl⟩ := tokTransfer_ok_iff.mp h
  have e1 := bump_eff ht src (-amount) fun _ => by omega
  have e2 := bump_eff (setTok_self st token { t with bal := bump t.bal src (-amount) }) dst amount
    fun hn => by have := hn dst; omega
  rw [setTok_setTok] at e2
  exact e1.trans e2

theorem tokBurn_eff {st st' : State} {token src : Addr} {amount : Int} {au : Bool}
    (h : tokBurn st token src amount au = .ok st') : Eff st st' (pt token src (-amount)) := by
  obtain ⟨t, ht, -, -, ham, hle, rfl⟩ := tokBurn_ok_iff.mp h
  exact bump_eff ht src (-amount) fun _ => by omega

theorem tokMintByService_eff {st st' : State} {token dst : Addr} {amount : Int}
    (h : tokMintByService st token dst amount = .ok st') : Eff st st' (pt token dst amount) := by
  obtain ⟨t, ht, -, -, -, ham, -, rfl⟩ := tokMintByService_ok_iff.mp h
  exact bump_eff ht dst amount fun hn => by have := hn dst; omega

def takeFlow (self : Addr) (mgr : Manager) (addr caller : Addr) (amount : Int) : Addr → Addr → Int :=
  match mgr with
  | .native => pt addr caller (-amount)
  | .lockUnlock => move addr caller self amount

def giveFlow (self : Addr) (mgr : Manager) (addr rcp : Addr) (amount : Int) : Addr → Addr → Int :=
  match mgr with
  | .native => pt addr rcp amount
  | .lockUnlock => move addr self rcp amount

theorem takeFlow_self {self caller : Addr} (h : caller ≠ self) (mgr : Manager) (addr : Addr) (amount : Int) (a : Addr) :
    takeFlow self mgr addr caller amount a self = if (addr, mgr) = (a, Manager.lockUnlock) then amount else 0 := by
  cases mgr
  · rw [if_neg (by simp)]; exact pt_ne_holder h
  · show pt addr caller (-amount) a self + pt addr self amount a self = _
    rw [pt_ne_holder h, Int.zero_add]
    simp only [pt, and_true, Prod.mk.injEq, eq_comm (a := a)]

theorem takeFlow_sum (self : Addr) (mgr : Manager) (addr caller : Addr) (amount : Int) (a : Addr) {hs : List Addr}
    (hnd : hs.Nodup) (hca : caller ∈ hs) (hself : self ∈ hs) :
    (hs.map (takeFlow self mgr addr caller amount a)).sum = if (addr, mgr) = (a, Manager.native) then -amount else 0 := by
  cases mgr
  · simp only [takeFlow, sum_pt _ _ _ _ hnd, hca, and_true, Prod.mk.injEq, eq_comm (a := a)]
  · rw [if_neg (by simp)]; exact move_sum _ _ _ _ _ hnd hca hself

theorem giveFlow_self (self : Addr) (mgr : Manager) (addr rcp : Addr) (amount : Int) (a : Addr) :
    giveFlow self mgr addr rcp amount a self =
      match mgr with
      | .lockUnlock => if addr = a ∧ rcp ≠ self then -amount else 0
      | .native => if addr = a ∧ rcp = self then amount else 0 := by
  cases mgr
  · simp only [giveFlow, pt, eq_comm (a := a), eq_comm (a := self)]
  · simp only [giveFlow, move, pt, and_true, eq_comm (a := a), eq_comm (a := self)]
    -- out of custody, and back in when the service itself is the recipient
    grind

theorem giveFlow_sum (self : Addr) (mgr : Manager) (addr rcp : Addr) (amount : Int) (a : Addr) {hs : List Addr}
    (hnd : hs.Nodup) (hr : rcp ∈ hs) (hself : self ∈ hs) :
    (hs.map (giveFlow self mgr addr rcp amount a)).sum = if (addr, mgr) = (a, Manager.native) then amount else 0 := by
  cases mgr
  · simp only [giveFlow, sum_pt _ _ _ _ hnd, hr, and_true, Prod.mk.injEq, eq_comm (a := a)]
  · rw [if_neg (by simp)]; exact move_sum _ _ _ _ _ hnd hself hr

theorem take_eff {st st' : State} {mgr : Manager} {addr caller : Addr} {amount : Int}
    (h : take st mgr addr caller amount = .ok st') : Eff st st' (takeFlow st.self mgr addr caller amount) := by
  cases mgr
  · exact tokBurn_eff h
  · exact tokTransfer_eff h

theorem give_eff {st st' : State} {mgr : Manager} {addr rcp : Addr} {amount : Int}
    (h : give st mgr addr rcp amount = .ok st') : Eff st st' (giveFlow st.self mgr addr rcp amount) := by
  cases mgr
  · exact tokMintByService_eff h
  · exact tokTransfer_eff h

variable (H S : Bytes → Bytes) (k : Consts)

theorem payGasAndCall_eff {st st' : State} {sp : Addr} {au : Bool} {dc : Bytes} {m : Abi.Msg} {gt : Addr} {ga : Int}
    {evs : List Event} (h : payGasAndCall H k st sp au dc m gt ga = .ok (st', evs)) :
    Eff st st' (move gt sp st.gasService ga) := by
  obtain ⟨-, -, -, _, -, ht, -⟩ := payGasAndCall_ok h
  exact tokTransfer_eff ht

theorem deployedTok_eff {st : State} {addr : Addr} (hfree : st.tokens addr = none) (ca : Addr) (su : Int) (m : Option Addr)
    (tid n sy : Bytes) (d : Nat) :
    Eff st (setTok st addr (deployedTok st.self ca su m tid n sy d)) (pt addr ca (if su > 0 then su else 0)) := by
  refine Eff.setTok (fun x => ?_) (fun a x e => pt_ne_token e) fun _ x => ?_
  · rw [balOf_of_none hfree, Int.zero_add, deployedTok_bal]
    simp only [pt, true_and]
  · rw [deployedTok_bal]
    split
    · split <;> omega
    · exact Int.le_refl 0

theorem freshTok_eff {st : State} {addr : Addr} (hfree : st.tokens addr = none) (self : Addr) (mo : Option Addr)
    (tid n sy : Bytes) (d : Nat) : Eff st (setTok st addr (freshTok self mo tid n sy d)) fun _ _ => 0 :=
  Eff.setTok (fun x => by rw [balOf_of_none hfree]; rfl) (fun _ _ _ => rfl) fun _ _ => Int.le_refl 0

/-- the movement of balances caused by a SUCCESSFUL operation, read off the state before it -/
def flow (st : State) : Op → Addr → Addr → Int
  | .deploy _ ca sa _ _ _ su _ =>
    pt (deployedAddress S k st.self (interchainTokenId H k st.chainName ca sa)) ca (if su > 0 then su else 0)
  | .deployRemote _ ca _ _ gt ga => move gt ca st.gasService ga
  | .deployRemoteCanonical _ _ _ sp gt ga => move gt sp st.gasService ga
  | .transfer _ ca tid _ _ am _ gt ga => fun a x =>
    (match st.registry tid with
     | some (addr, mgr) => takeFlow st.self mgr addr ca am a x
     | none => 0) + move gt ca st.gasService ga a x
  | .execute _ _ _ p => fun a x =>
    match Abi.decodeHub p with
    | .ok (.receiveFromHub _ (.transfer t)) =>
      match st.registry t.tokenId, addrFromXdr t.dest with
      | some (addr, mgr), some r => giveFlow st.self mgr addr r t.amount a x
      | _, _ => 0
    | _ => 0
  | .userTransfer t s d am _ => fun a x => if s = st.self ∨ d = st.self then 0 else move t s d am a x
  | .minterMint t _ d am _ => pt t d am
  | _ => fun _ _ => 0

theorem step_flow (st : State) (op : Op) :
    Eff st (step H S k st op).1 fun a x =>
      match (step H S k st op).2 with | .err _ => 0 | _ => flow H S k st op a x := by
  have he := step_effect H S k st op
  generalize step H S k st op = r at he ⊢
  cases he with
  | refused => exact Eff.refl
  | deploy htid haddr hau htok =>
    subst htid haddr
    exact (deployedTok_eff htok ..).tokens rfl rfl
  | deployRemote _ hg | deployRemoteCanonical _ hg => exact (tokTransfer_eff hg).tokens rfl rfl
  | @transfer _ _ _ _ _ _ _ _ _ _ _ st1 _ _ _ _ hreg h1 hg =>
    have e2 := tokTransfer_eff hg
    rw [show st1.gasService = st.gasService by rw [(take_ledger h1).1]] at e2
    simp only [flow, hreg]
    exact ((take_eff h1).trans e2).tokens rfl rfl
  | recvTransfer _ hdec hdest hreg hg =>
    simp only [flow, hdec, hreg, hdest]
    exact (give_eff hg).tokens rfl rfl
  | recvDeploy _ hdec haddr _ htok =>
    simp only [flow, hdec]
    exact (freshTok_eff htok ..).tokens rfl rfl
  | userTransfer hs hd hg =>
    simp only [flow, if_neg (not_or.mpr ⟨hs, hd⟩)]
    exact (tokTransfer_eff hg).tokens rfl rfl
  | @minterMint _ _ d _ _ _ htk h0 => exact bump_eff htk d _ fun hn => by have := hn d; omega
  | _ => exact Eff.refl.tokens rfl rfl

theorem step_sum (st : State) (op : Op) (a : Addr) (hs : List Addr) :
    (hs.map (balOf (step H S k st op).1 a)).sum =
      (hs.map (balOf st a)).sum +
        match (step H S k st op).2 with | .err _ => 0 | _ => (hs.map (flow H S k st op a)).sum := by
  rw [(step_flow H S k st op).sum]
  split
  · rw [sum_map_zero]
  · rfl

end Cgp.Its
