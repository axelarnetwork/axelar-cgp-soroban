/-
  For C05: the frame `FK`, what a gas payment does in its terms, and the inbound transfer read off a successful `execute`.
-/
import Cgp.Proofs.ItsBal
namespace Cgp.Proofs.C05
open Cgp.Xdr Cgp.Its

variable (H S : Bytes → Bytes) (k : Consts)

structure FK (s a : Addr) (c : Prop) (st st' : State) : Prop where
  self : st'.self = st.self
  gs : st'.gasService = st.gasService
  ga : st'.gatewayAddr = st.gatewayAddr
  nn : NN st → NN st'
  keep : c → balOf st' a s = balOf st a s

variable {s a : Addr} {c : Prop}

theorem FK.of_eff {st st' : State} {δ : Addr → Addr → Int} (hl : Ledger st st') (h : Eff st st' δ) (hk : c → δ a s = 0) :
    FK s a c st st' :=
  ⟨by rw [hl.1], by rw [hl.1], by rw [hl.1], h.nn, fun hc => by rw [h.bal, hk hc, Int.add_zero]⟩

theorem payGas_FK {st : State} {sp spa dc msg gt ga st' evs}
    (h : payGasAndCall H k st sp spa dc msg gt ga = .ok (st', evs)) :
    FK s a (sp ≠ s ∧ st.gasService ≠ s) st st' :=
  .of_eff (payGasAndCall_ledger h) (payGasAndCall_eff H k h) fun hc => move_ne hc.1 hc.2

theorem payGas_sum {st : State} {sp spa dc msg gt ga st' evs}
    (h : payGasAndCall H k st sp spa dc msg gt ga = .ok (st', evs)) (a : Addr) {hs : List Addr} (hnd : hs.Nodup)
    (hsp : sp ∈ hs) (hgs : st.gasService ∈ hs) :
    (hs.map (balOf st' a)).sum = (hs.map (balOf st a)).sum := by
  rw [(payGasAndCall_eff H k h).sum, move_sum _ _ _ _ _ hnd hsp hgs, Int.add_zero]

theorem inbound_exact (st st' : State) (c i sa payload origin : Bytes) (t : Abi.Transfer) (evs : List Event)
    (h : execute H S k st c i sa payload = .ok (st', evs))
    (hd : Abi.decodeHub payload = .ok (.receiveFromHub origin (.transfer t))) :
    ∃ addr mgr recipient st0,
      st0 = { st with gw := st'.gw } ∧
      st.registry t.tokenId = some (addr, mgr) ∧ addrFromXdr t.dest = some recipient ∧
      (match mgr with
       | .native => tokMintByService st0 addr recipient t.amount = .ok st'
       | .lockUnlock => tokTransfer st0 addr st0.self recipient t.amount true = .ok st') ∧
      (∃ gwEvs, evs = gwEvs ++ (evTransferReceived st origin t.tokenId t.source recipient t.amount t.data ::
          (match t.data with
           | none => []
           | some d => [evAppExecuted recipient origin i t.source d t.tokenId addr t.amount]))) := by
  obtain ⟨-, -, -, _, _, hdec, -, hr⟩ := execute_ok_iff.mp h
  cases hd.symm.trans hdec
  obtain ⟨rcp, addr, mgr, hdest, hreg, hg, -, hevs⟩ := recvTransfer_ok_iff.mp hr
  refine ⟨addr, mgr, rcp, _, rfl, hreg, hdest, ?_, _, hevs⟩
  rw [execute_gw h]
  cases mgr <;> exact hg

end Cgp.Proofs.C05
