/-
  The SAC bank and the gas service over it: what a bank transfer does to every balance in one formula, one inversion per
  entry point (proved as in Proofs/Token.lean), and `step` as a relation (`Effect`).
-/
import Cgp.GasService
namespace Cgp.Sac
open Cgp.Xdr

def Bank.credit (b : Bank) (t h : Addr) (d : Int) : Bank :=
  { b with bal := fun t' h' => if t' = t ∧ h' = h then b.bal t h + d else b.bal t' h' }

-- the test is oriented "moved = asked for", as in `Props.C14.flow` (`Token.State.credit_bal` has the other orientation)
@[simp] theorem Bank.credit_bal (b : Bank) (t h : Addr) (d : Int) (t' h' : Addr) :
    (b.credit t h d).bal t' h' = b.bal t' h' + if t = t' ∧ h = h' then d else 0 := by
  simp only [Bank.credit]
  split
  · next e => rw [e.1, e.2, if_pos ⟨rfl, rfl⟩]
  · next e => rw [if_neg (fun e' => e ⟨e'.1.symm, e'.2.symm⟩), Int.add_zero]

theorem Bank.transfer_some {b b' : Bank} {token src dst : Addr} {amount : Int} {au : Bool}
    (h : b.transfer token src dst amount au = some b') :
    b.isToken token = true ∧ au = true ∧ 0 ≤ amount ∧ amount ≤ b.bal token src ∧
    b' = (b.credit token src (-amount)).credit token dst amount := by
  revert h
  fun_cases Bank.transfer b token src dst amount au <;> intro h <;> cases h
  rename_i h1 h2 h3 h4 _ _
  exact ⟨by simpa using h1, by simpa using h2, by omega, by omega, rfl⟩

theorem Bank.mint_some {b b' : Bank} {token dst : Addr} {amount : Int} (h : b.mint token dst amount = some b') :
    0 ≤ amount ∧ b' = b.credit token dst amount := by
  revert h
  fun_cases Bank.mint b token dst amount <;> intro h <;> cases h
  exact ⟨by omega, rfl⟩

/-- also right when `src = dst` -/
theorem Bank.transfer_bal {b b' : Bank} {token src dst : Addr} {amount : Int} {au : Bool}
    (h : b.transfer token src dst amount au = some b') (t x : Addr) :
    b'.bal t x = b.bal t x + (if token = t ∧ dst = x then amount else 0) - (if token = t ∧ src = x then amount else 0) := by
  rw [(Bank.transfer_some h).2.2.2.2, Bank.credit_bal, Bank.credit_bal]
  split <;> omega

theorem Bank.transfer_ends {b b' : Bank} {token src dst : Addr} {amount : Int} {au : Bool}
    (h : b.transfer token src dst amount au = some b') (hne : src ≠ dst) :
    b'.bal token src = b.bal token src - amount ∧ b'.bal token dst = b.bal token dst + amount := by
  constructor
  · rw [Bank.transfer_bal h, if_neg (fun e => hne e.2.symm), if_pos ⟨rfl, rfl⟩]; omega
  · rw [Bank.transfer_bal h, if_pos ⟨rfl, rfl⟩, if_neg (fun e => hne e.2)]; omega

theorem Bank.transfer_lowers {b b' : Bank} {token src dst t x : Addr} {amount : Int} {au : Bool}
    (h : b.transfer token src dst amount au = some b') (hlt : b'.bal t x < b.bal t x) : src = x ∧ dst ≠ x := by
  rw [Bank.transfer_bal h] at hlt
  have := (Bank.transfer_some h).2.2.1
  by_cases hs : token = t ∧ src = x
  · refine ⟨hs.2, fun hd => ?_⟩
    rw [if_pos hs, if_pos ⟨hs.1, hd⟩] at hlt
    omega
  · rw [if_neg hs] at hlt
    split at hlt <;> omega

end Cgp.Sac

namespace Cgp.GasService
open Cgp.Xdr

section
variable {H : Bytes → Bytes} {st st' : State} {auths : List Addr} {evs : List Event}

theorem payGas_ok {sender spender token : Addr} {chain dest payload metadata : Bytes} {amount : Int}
    (h : payGas H st auths sender chain dest payload spender token amount metadata = .ok (st', evs)) :
    spender ∈ auths ∧ 0 < amount ∧
    (∃ b, st.bank.transfer token spender st.self amount true = some b ∧ st' = { st with bank := b }) ∧
    evs = [evGasPaid H sender chain dest payload spender token amount metadata] := by
  revert h
  fun_cases payGas H st auths sender chain dest payload spender token amount metadata <;> intro h <;> cases h
  rename_i h1 h2 b hb
  exact ⟨Decidable.not_not.1 h1, by omega, ⟨b, hb, rfl⟩, rfl⟩

theorem addGas_ok {sender spender token : Addr} {msgId : Bytes} {amount : Int}
    (h : addGas st auths sender msgId spender token amount = .ok (st', evs)) :
    spender ∈ auths ∧ 0 < amount ∧
    (∃ b, st.bank.transfer token spender st.self amount true = some b ∧ st' = { st with bank := b }) ∧
    evs = [evGasAdded sender msgId spender token amount] := by
  revert h
  fun_cases addGas st auths sender msgId spender token amount <;> intro h <;> cases h
  rename_i h1 h2 b hb
  exact ⟨Decidable.not_not.1 h1, by omega, ⟨b, hb, rfl⟩, rfl⟩

theorem collectFees_ok {receiver token : Addr} {amount : Int}
    (h : collectFees st auths receiver token amount = .ok (st', evs)) :
    st.collector ∈ auths ∧ 0 < amount ∧
    (∃ b, st.bank.transfer token st.self receiver amount true = some b ∧ st' = { st with bank := b }) ∧
    evs = [evCollected st.collector token amount] := by
  revert h
  fun_cases collectFees st auths receiver token amount <;> intro h <;> cases h
  rename_i h1 h2 _ _ b hb
  exact ⟨Decidable.not_not.1 h1, by omega, ⟨b, hb, rfl⟩, rfl⟩

theorem refund_ok {receiver token : Addr} {msgId : Bytes} {amount : Int}
    (h : refund st auths msgId receiver token amount = .ok (st', evs)) :
    st.collector ∈ auths ∧ (∃ b, st.bank.transfer token st.self receiver amount true = some b ∧ st' = { st with bank := b }) ∧
    evs = [evRefunded msgId receiver token amount] := by
  revert h
  fun_cases refund st auths msgId receiver token amount <;> intro h <;> cases h
  rename_i h1 b hb
  exact ⟨Decidable.not_not.1 h1, ⟨b, hb, rfl⟩, rfl⟩

theorem transferOwnership_ok_iff {new : Addr} : transferOwnership st auths new = .ok (st', evs) ↔
    st.owner ∈ auths ∧ st' = { st with owner := new } ∧
      evs = [⟨[sym "ownership_transferred", .addr st.owner, .addr new], .vec .nil⟩] := by
  rw [transferOwnership, guard_ok_iff, Decidable.not_not, Except.ok.injEq, Prod.mk.injEq]
  exact and_congr_right' (and_congr eq_comm eq_comm)

end

inductive Effect (H : Bytes → Bytes) (st : State) : Op → State × Except Err (List Event) → Prop
  | refused (op : Op) (e : Err) : Effect H st op (st, .error e)
  | payGas {au s c d pl sp t a m b evs} (ha : sp ∈ au) (hp : 0 < a) (hb : st.bank.transfer t sp st.self a true = some b) :
      Effect H st (.payGas au s c d pl sp t a m) ({ st with bank := b }, .ok evs)
  | addGas {au s i sp t a b evs} (ha : sp ∈ au) (hp : 0 < a) (hb : st.bank.transfer t sp st.self a true = some b) :
      Effect H st (.addGas au s i sp t a) ({ st with bank := b }, .ok evs)
  | collectFees {au r t a b evs} (hc : st.collector ∈ au) (hp : 0 < a)
      (hb : st.bank.transfer t st.self r a true = some b) : Effect H st (.collectFees au r t a) ({ st with bank := b }, .ok evs)
  | refund {au i r t a b evs} (hc : st.collector ∈ au) (hb : st.bank.transfer t st.self r a true = some b) :
      Effect H st (.refund au i r t a) ({ st with bank := b }, .ok evs)
  | transferOwnership {au n evs} (ho : st.owner ∈ au) : Effect H st (.transferOwnership au n) ({ st with owner := n }, .ok evs)
  | userTransfer {t s d a au b evs} (hs : s ≠ st.self) (hd : d ≠ st.self) (hb : st.bank.transfer t s d a au = some b) :
      Effect H st (.userTransfer t s d a au) ({ st with bank := b }, .ok evs)
  | adminMint {t d a b evs} (hd : d ≠ st.self) (hb : st.bank.mint t d a = some b) :
      Effect H st (.adminMint t d a) ({ st with bank := b }, .ok evs)
  | upgradeMigrate {au} (ho : st.owner ∈ au) : Effect H st (.upgradeMigrate au) (st, .ok [])

theorem apply_upgradeMigrate_ok {H : Bytes → Bytes} {st : State} {au : List Addr} {r : State × List Event}
    (h : apply H st (.upgradeMigrate au) = .ok r) : r = (st, []) ∧ st.owner ∈ au := by
  simp only [apply] at h
  split at h
  · next hc => cases h; exact ⟨rfl, hc⟩
  · cases h

theorem step_effect (H : Bytes → Bytes) (st : State) (op : Op) : Effect H st op (step H st op) := by
  unfold step
  cases h : apply H st op with
  | error e => exact .refused op e
  | ok r =>
    obtain ⟨st', evs⟩ := r
    cases op with
    | payGas au s c d pl sp t a m => obtain ⟨h1, h2, ⟨b, hb, rfl⟩, -⟩ := payGas_ok h; exact .payGas h1 h2 hb
    | addGas au s i sp t a => obtain ⟨h1, h2, ⟨b, hb, rfl⟩, -⟩ := addGas_ok h; exact .addGas h1 h2 hb
    | collectFees au r t a => obtain ⟨h1, h2, ⟨b, hb, rfl⟩, -⟩ := collectFees_ok h; exact .collectFees h1 h2 hb
    | refund au i r t a => obtain ⟨h1, ⟨b, hb, rfl⟩, -⟩ := refund_ok h; exact .refund h1 hb
    | transferOwnership au n => obtain ⟨ho, rfl, -⟩ := transferOwnership_ok_iff.1 h; exact .transferOwnership ho
    | userTransfer t s d a au =>
      obtain ⟨hn, h⟩ := guard_ok_iff.1 h
      split at h <;> cases h
      next hb => exact .userTransfer (fun e => hn (.inl e)) (fun e => hn (.inr e)) hb
    | adminMint t d a =>
      obtain ⟨hn, h⟩ := guard_ok_iff.1 h
      split at h <;> cases h
      next hb => exact .adminMint hn hb
    | upgradeMigrate au => obtain ⟨hr, ho⟩ := apply_upgradeMigrate_ok h; cases hr; exact .upgradeMigrate ho

theorem step_upgradeMigrate_fst {H : Bytes → Bytes} {st : State} {au : List Addr} : (step H st (.upgradeMigrate au)).1 = st := by
  have he := step_effect H st (.upgradeMigrate au)
  generalize step H st (.upgradeMigrate au) = r at he ⊢
  cases he with
  | _ => rfl

theorem step_err (H : Bytes → Bytes) (st : State) (op : Op) (e : Err) (h : (step H st op).2 = .error e) :
    (step H st op).1 = st := by
  have he := step_effect H st op
  generalize step H st op = r at he h ⊢
  cases he with
  | refused => rfl
  | _ => cases h

end Cgp.GasService
