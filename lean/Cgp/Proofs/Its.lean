/-
  What the entry points of the interchain token service do, said once and in the order of the model file: success ↔
  conditions and the exact result; `Ledger`, the frame of every call into a token contract; `execute` cut where the Rust
  source cuts it (`get_execute_params`, the two arms of `execute_message`, `give_token`); and `step` as a relation, `Effect`,
  with what is read off it field by field.
-/
import Cgp.ItsOps
import Cgp.Proofs.Gateway

namespace Cgp.Its
open Cgp.Xdr

variable {H S : Bytes → Bytes} {k : Consts}

theorem setTok_self (st : State) (a : Addr) (t : Tok) : (setTok st a t).tokens a = some t := if_pos rfl

theorem setTok_other {st : State} {a x : Addr} {t : Tok} (h : x ≠ a) : (setTok st a t).tokens x = st.tokens x := if_neg h

theorem setTok_setTok (st : State) (a : Addr) (t t' : Tok) : setTok (setTok st a t) a t' = setTok st a t' := by
  unfold setTok
  dsimp only
  congr 1
  funext x
  split <;> rfl

theorem tokTransfer_ok_iff {st st' : State} {token src dst : Addr} {amount : Int} {au : Bool} :
    tokTransfer st token src dst amount au = .ok st' ↔
    ∃ t, st.tokens token = some t ∧ au = true ∧ 0 ≤ amount ∧ amount ≤ t.bal src ∧
      bump t.bal src (-amount) dst + amount ≤ i128Max ∧
      st' = setTok st token { t with bal := bump (bump t.bal src (-amount)) dst amount } := by
  unfold tokTransfer
  cases st.tokens token with
  | none => exact ⟨nofun, fun ⟨_, h, _⟩ => nomatch h⟩
  | some t =>
    simp only [guard_ok_iff, Option.some.injEq, exists_eq_left', not_or, Bool.not_eq_true', Bool.not_eq_false,
      Int.not_lt, Except.ok.injEq, gt_iff_lt, and_assoc, eq_comm (b := st')]
    rfl

theorem tokBurn_ok_iff {st st' : State} {token src : Addr} {amount : Int} {au : Bool} :
    tokBurn st token src amount au = .ok st' ↔
    ∃ t, st.tokens token = some t ∧ t.kind ≠ .custom ∧ au = true ∧ 0 ≤ amount ∧ amount ≤ t.bal src ∧
      st' = setTok st token { t with bal := bump t.bal src (-amount) } := by
  unfold tokBurn
  cases st.tokens token with
  | none => exact ⟨nofun, fun ⟨_, h, _⟩ => nomatch h⟩
  | some t =>
    simp only [guard_ok_iff, Option.some.injEq, exists_eq_left', not_or, Bool.not_eq_true', Bool.not_eq_false,
      Int.not_lt, Except.ok.injEq, ne_eq, and_assoc, eq_comm (b := st')]
    rfl

theorem tokMintByService_ok_iff {st st' : State} {token dst : Addr} {amount : Int} :
    tokMintByService st token dst amount = .ok st' ↔
    ∃ t, st.tokens token = some t ∧ t.kind = .interchain ∧ t.owner = st.self ∧ t.minter t.owner = true ∧ 0 ≤ amount ∧
      t.bal dst + amount ≤ i128Max ∧ st' = setTok st token { t with bal := bump t.bal dst amount } := by
  unfold tokMintByService
  cases st.tokens token with
  | none => exact ⟨nofun, fun ⟨_, h, _⟩ => nomatch h⟩
  | some t =>
    simp only [guard_ok_iff, Option.some.injEq, exists_eq_left', not_or, Bool.not_eq_true', Bool.not_eq_false,
      Int.not_lt, Except.ok.injEq, ne_eq, Decidable.not_not, and_assoc, eq_comm (b := st')]
    rfl

/-- taking the amount to be sent: burn for a native token, move into custody otherwise (`take_token`) -/
def take (st : State) (mgr : Manager) (addr caller : Addr) (amount : Int) : Except Err State :=
  match mgr with
  | .native => tokBurn st addr caller amount true
  | .lockUnlock => tokTransfer st addr caller st.self amount true

/-- handing out a received amount: mint for a native token, release from custody otherwise (`give_token`) -/
def give (st : State) (mgr : Manager) (addr recipient : Addr) (amount : Int) : Except Err State :=
  match mgr with
  | .native => tokMintByService st addr recipient amount
  | .lockUnlock => tokTransfer st addr st.self recipient amount true

/-- what a call into token contracts does to the state: nothing but `tokens` changes, and no token contract disappears -/
def Ledger (st st' : State) : Prop :=
  st' = { st with tokens := st'.tokens } ∧ ∀ a, (st.tokens a).isSome = true → (st'.tokens a).isSome = true

theorem Ledger.trans {a b c : State} (h1 : Ledger a b) (h2 : Ledger b c) : Ledger a c :=
  ⟨by rw [h2.1, h1.1], fun x hx => h2.2 x (h1.2 x hx)⟩

theorem Ledger.setTok (st : State) (a : Addr) (t : Tok) : Ledger st (setTok st a t) := by
  refine ⟨rfl, fun x hx => ?_⟩
  unfold Its.setTok
  dsimp only
  split
  · rfl
  · exact hx

theorem tokTransfer_ledger {st st' : State} {token src dst : Addr} {amount : Int} {au : Bool}
    (h : tokTransfer st token src dst amount au = .ok st') : Ledger st st' := by
  obtain ⟨_, -, -, -, -, -, rfl⟩ := tokTransfer_ok_iff.mp h; exact .setTok _ _ _

theorem take_ledger {st st' : State} {mgr : Manager} {addr caller : Addr} {amount : Int}
    (h : take st mgr addr caller amount = .ok st') : Ledger st st' := by
  cases mgr
  · obtain ⟨_, -, -, -, -, -, rfl⟩ := tokBurn_ok_iff.mp h; exact .setTok _ _ _
  · exact tokTransfer_ledger h

theorem give_ledger {st st' : State} {mgr : Manager} {addr rcp : Addr} {amount : Int}
    (h : give st mgr addr rcp amount = .ok st') : Ledger st st' := by
  cases mgr
  · obtain ⟨_, -, -, -, -, -, -, rfl⟩ := tokMintByService_ok_iff.mp h; exact .setTok _ _ _
  · exact tokTransfer_ledger h

theorem setTrustedChain_ok_iff {st : State} {auths : List Addr} {c : Bytes} {r : State × List Event} :
    setTrustedChain st auths c = .ok r ↔
    st.owner ∈ auths ∧ st.trusted c = false ∧
    r = ({ st with trusted := fun x => if x = c then true else st.trusted x }, [evTrustedSet st c]) := by
  unfold setTrustedChain
  rw [guard_ok_iff, guard_ok_iff, Decidable.not_not, Bool.not_eq_true, Except.ok.injEq, eq_comm (b := r)]

theorem removeTrustedChain_ok_iff {st : State} {auths : List Addr} {c : Bytes} {r : State × List Event} :
    removeTrustedChain st auths c = .ok r ↔
    st.owner ∈ auths ∧ st.trusted c = true ∧
    r = ({ st with trusted := fun x => if x = c then false else st.trusted x }, [evTrustedRemoved st c]) := by
  unfold removeTrustedChain
  rw [guard_ok_iff, guard_ok_iff, Decidable.not_not, Bool.not_eq_true, Bool.not_eq_false',
    Except.ok.injEq, eq_comm (b := r)]

theorem transferOwnership_ok_iff {st : State} {auths : List Addr} {new : Addr} {r : State × List Event} :
    transferOwnership st auths new = .ok r ↔
    st.owner ∈ auths ∧
    r = ({ st with owner := new }, [⟨st.self, [sym "ownership_transferred", .addr st.owner, .addr new], .vec .nil⟩]) := by
  unfold transferOwnership
  rw [guard_ok_iff, Decidable.not_not, Except.ok.injEq, eq_comm]

/-- the token a deployment creates (the `Tok` literal of `deployTokenContract`) -/
def freshTok (self : Addr) (mo : Option Addr) (tid n s : Bytes) (d : Nat) : Tok :=
  { kind := .interchain, name := n, symbol := s, decimals := d, bal := fun _ => 0, owner := self,
    minter := fun a => a = self || mo = some a, tokenId := tid }

theorem deployTokenContract_ok_iff {st : State} {mo : Option Addr} {tid n s : Bytes} {d : Nat} {r : State × Addr × Event} :
    deployTokenContract S k st mo tid n s d = .ok r ↔
    st.tokens (deployedAddress S k st.self tid) = none ∧ st.executable (deployedAddress S k st.self tid) = false ∧
    validMetadata n s d = true ∧
    r = (setTok st (deployedAddress S k st.self tid) (freshTok st.self mo tid n s d), deployedAddress S k st.self tid,
         evDeployed st tid (deployedAddress S k st.self tid) n s d mo) := by
  unfold deployTokenContract
  simp only [guard_ok_iff, not_or, Bool.not_eq_true, Bool.not_eq_true', Bool.not_eq_false, Option.isSome_eq_false_iff,
    Option.isNone_iff_eq_none, Except.ok.injEq, and_assoc, eq_comm (b := r)]
  rfl

/-- the token a local deployment leaves behind: the initial supply at the deployer; with a supply AND a designated
    minter the service hands its own minting right over to that minter -/
def deployedTok (self caller : Addr) (supply : Int) (minter : Option Addr) (tid n s : Bytes) (d : Nat) : Tok :=
  if supply > 0 then
    { freshTok self (some self) tid n s d with
      bal := bump (fun _ => 0) caller supply
      minter := (match minter with
        | none => (freshTok self (some self) tid n s d).minter
        | some m => fun a => if a = m then true else if a = self then false
                             else (freshTok self (some self) tid n s d).minter a) }
  else freshTok self minter tid n s d

theorem deployedTok_bal (self ca : Addr) (su : Int) (m : Option Addr) (tid n sy : Bytes) (d : Nat) (x : Addr) :
    (deployedTok self ca su m tid n sy d).bal x = if x = ca then (if su > 0 then su else 0) else 0 := by
  unfold deployedTok
  by_cases h : su > 0
  · rw [if_pos h, if_pos h]
    exact (bump_apply (fun _ => 0) ca su x).trans (Int.zero_add _)
  · rw [if_neg h, if_neg h, ite_self]
    rfl

theorem deployInterchainToken_ok {st : State} {auths : List Addr} {caller : Addr} {salt n s : Bytes} {d : Nat}
    {supply : Int} {minter : Option Addr} {r : State × Bytes × List Event}
    (h : deployInterchainToken H S k st auths caller salt n s d supply minter = .ok r) :
    let tid := interchainTokenId H k st.chainName caller salt
    let addr := deployedAddress S k st.self tid
    caller ∈ auths ∧ (¬ supply > 0 → ∀ m, minter = some m → m ≠ st.self) ∧
    st.tokens addr = none ∧ st.executable addr = false ∧ validMetadata n s d = true ∧ supply ≤ i128Max ∧
    r = ({ setTok st addr (deployedTok st.self caller supply minter tid n s d) with
            registry := fun x => if x = tid then some (addr, .native) else st.registry x },
         tid, [evDeployed st tid addr n s d (if supply > 0 then some st.self else minter)]) := by
  revert h
  fun_cases deployInterchainToken H S k st auths caller salt n s d supply minter <;> intro h <;> cases h
  rename_i hau initialMinter im him tid' st1 addr' ev hd afterMint st3 h5
  obtain ⟨h1, h2, h3, h4⟩ := deployTokenContract_ok_iff.mp hd
  cases h4
  by_cases hs : supply > 0
  · simp only [initialMinter, afterMint, if_pos hs] at him h5
    cases him
    split at h5
    · cases h5
    rename_i st2 hm
    obtain ⟨t, ht, -, -, -, -, hmax, rfl⟩ := tokMintByService_ok_iff.mp hm
    rw [setTok_self] at ht
    cases ht
    refine ⟨Decidable.not_not.mp hau, fun hn => absurd hs hn, h1, h2, h3, by simpa [freshTok] using hmax, ?_⟩
    unfold deployedTok
    rw [if_pos hs, if_pos hs]
    -- the two (or three) writes of the token collapse into one
    cases minter with
    | none =>
      cases h5
      rw [setTok_setTok]
      rfl
    | some m =>
      dsimp only at h5
      rw [setTok_self] at h5
      cases h5
      rw [setTok_setTok, setTok_setTok]
      rfl
  · simp only [initialMinter, afterMint, if_neg hs] at him h5
    cases h5
    have him' : im = minter ∧ ∀ m, minter = some m → m ≠ st.self := by
      split at him
      · split at him
        · cases him
        · rename_i hm; cases him; exact ⟨rfl, fun _ e => by cases e; exact hm⟩
      · cases him; exact ⟨rfl, nofun⟩
    obtain ⟨rfl, hne⟩ := him'
    have : (0 : Int) ≤ i128Max := by decide
    refine ⟨Decidable.not_not.mp hau, fun _ => hne, h1, h2, h3, by omega, ?_⟩
    unfold deployedTok
    rw [if_neg hs, if_neg hs]
    rfl

theorem registerCanonicalToken_ok_iff {st : State} {token : Addr} {r : State × Bytes × List Event} :
    registerCanonicalToken H k st token = .ok r ↔
    st.registry (canonicalTokenId H k st.chainName token) = none ∧
    r = ({ st with registry := fun x => if x = canonicalTokenId H k st.chainName token then some (token, .lockUnlock)
                                        else st.registry x },
         canonicalTokenId H k st.chainName token,
         [evIdClaimed st (canonicalTokenId H k st.chainName token) zeroAddr (canonicalSalt H k st.chainName token)]) := by
  unfold registerCanonicalToken canonicalTokenId
  simp only [guard_ok_iff, Bool.not_eq_true, Option.isSome_eq_false_iff, Option.isNone_iff_eq_none,
    Except.ok.injEq, eq_comm (b := r)]

theorem payGasAndCall_ok {st st' : State} {spender : Addr} {spenderAuth : Bool} {dest : Bytes} {msg : Abi.Msg}
    {gasToken : Addr} {gasAmount : Int} {evs : List Event}
    (h : payGasAndCall H k st spender spenderAuth dest msg gasToken gasAmount = .ok (st', evs)) :
    st.trusted dest = true ∧ spenderAuth = true ∧ 0 < gasAmount ∧
    ∃ payload, Abi.encodeHub (.sendToHub dest msg) = .ok payload ∧
      tokTransfer st gasToken spender st.gasService gasAmount true = .ok st' ∧
      evs = [evGasPaid H k st payload spender gasToken gasAmount, evContractCalled H k st payload] := by
  revert h
  fun_cases payGasAndCall H k st spender spenderAuth dest msg gasToken gasAmount <;> intro h <;> cases h
  rename_i htr payload hpay hau hga htt
  exact ⟨by simpa using htr, by simpa using hau, by omega, payload, hpay, htt, rfl⟩

theorem payGasAndCall_ledger {st st' : State} {sp : Addr} {au : Bool} {dc : Bytes} {m : Abi.Msg} {gt : Addr} {ga : Int}
    {evs : List Event} (h : payGasAndCall H k st sp au dc m gt ga = .ok (st', evs)) : Ledger st st' := by
  obtain ⟨-, -, -, _, -, ht, -⟩ := payGasAndCall_ok h
  exact tokTransfer_ledger ht

theorem deployRemoteToken_ok {st st' : State} {spender : Addr} {spenderAuth : Bool} {salt' dest : Bytes}
    {gasToken : Addr} {gasAmount : Int} {tid : Bytes} {evs : List Event}
    (h : deployRemoteToken H k st spender spenderAuth salt' dest gasToken gasAmount = .ok (st', tid, evs)) :
    tid = tokenIdOf H k zeroAddr salt' ∧
    ∃ addr mgr t evs',
      st.registry tid = some (addr, mgr) ∧ st.tokens addr = some t ∧ validMetadata t.name t.symbol t.decimals = true ∧
      payGasAndCall H k st spender spenderAuth dest (.deploy ⟨tid, t.name, t.symbol, t.decimals % 256, none⟩)
        gasToken gasAmount = .ok (st', evs') ∧
      evs = evDeploymentStarted st tid addr dest t.name t.symbol t.decimals :: evs' := by
  revert h
  fun_cases deployRemoteToken H k st spender spenderAuth salt' dest gasToken gasAmount <;> intro h <;> try cases h
  rename_i addr mgr hreg t htok hvm _ st1 evs1 hp
  -- the returned id is a `let` of the definition, which `cases h` cannot eliminate
  injection h with h; injection h with h1 h; injection h with h2 h3
  subst h1 h2 h3
  exact ⟨rfl, addr, mgr, t, evs1, hreg, htok, by simpa using hvm, hp, rfl⟩

theorem deployRemoteInterchainToken_ok_iff {st : State} {auths : List Addr} {caller : Addr} {salt dest : Bytes}
    {gasToken : Addr} {gasAmount : Int} {r : State × Bytes × List Event} :
    deployRemoteInterchainToken H k st auths caller salt dest gasToken gasAmount = .ok r ↔
    caller ∈ auths ∧
      deployRemoteToken H k st caller true (deploySalt H k st.chainName caller salt) dest gasToken gasAmount = .ok r := by
  unfold deployRemoteInterchainToken
  rw [guard_ok_iff, Decidable.not_not]

theorem interchainTransfer_ok {st st' : State} {auths : List Addr} {caller : Addr} {tid dest destAddr : Bytes}
    {amount : Int} {data : Option Bytes} {gasToken : Addr} {gasAmount : Int} {evs : List Event}
    (h : interchainTransfer H k st auths caller tid dest destAddr amount data gasToken gasAmount = .ok (st', evs)) :
    0 < amount ∧ caller ∈ auths ∧
    ∃ addr mgr st1 evs',
      st.registry tid = some (addr, mgr) ∧ take st mgr addr caller amount = .ok st1 ∧
      payGasAndCall H k st1 caller true dest (.transfer ⟨tid, enc (.addr caller), destAddr, amount, data⟩)
        gasToken gasAmount = .ok (st', evs') ∧
      evs = evTransferSent st tid caller dest destAddr amount data :: evs' := by
  revert h
  fun_cases interchainTransfer H k st auths caller tid dest destAddr amount data gasToken gasAmount <;> intro h <;> cases h
  rename_i ham hca addr mgr hreg _ st1 ht _ evs2 hp
  exact ⟨by omega, Decidable.not_not.mp hca, addr, mgr, st1, evs2, hreg, ht, hp, rfl⟩

def decodeMinter : Option Bytes → Except Err (Option Addr)
  | none => .ok none
  | some m => match addrFromXdr m with
    | some a => .ok (some a)
    | none => .error .invalidMinter

theorem decodeMinter_ok_iff {m : Option Bytes} {mo : Option Addr} :
    decodeMinter m = .ok mo ↔ mo = m.bind addrFromXdr ∧ ∀ b, m = some b → (addrFromXdr b).isSome = true := by
  cases m with
  | none => exact ⟨fun h => by cases h; exact ⟨rfl, nofun⟩, fun h => by rw [h.1]; rfl⟩
  | some b =>
    simp only [decodeMinter, Option.bind_some, Option.some.injEq, forall_eq']
    cases addrFromXdr b with
    | none => exact ⟨nofun, fun h => nomatch h.2⟩
    | some a => exact ⟨fun h => by cases h; exact ⟨rfl, rfl⟩, fun h => by rw [h.1]⟩

/-- the `InterchainTransfer` arm of `execute_message`; `st` is the state before the gateway consumed the approval
    (its address goes into the event), `st0` the state after -/
def recvTransfer (st st0 : State) (gwEvents : List Event) (origin msgId : Bytes) (t : Abi.Transfer) :
    Except Err (State × List Event) :=
  match addrFromXdr t.dest with
  | none => .error .invalidDestinationAddress
  | some recipient =>
    match st0.registry t.tokenId with
    | none => .error .invalidTokenId
    | some (addr, mgr) =>
      match give st0 mgr addr recipient t.amount with
      | .error e => .error e
      | .ok st1 =>
        let ev := evTransferReceived st origin t.tokenId t.source recipient t.amount t.data
        match t.data with
        | none => .ok (st1, gwEvents ++ [ev])
        | some d =>
          if st1.executable recipient then
            .ok (st1, gwEvents ++ [ev, evAppExecuted recipient origin msgId t.source d t.tokenId addr t.amount])
          else .error .executableCallFailed

theorem recvTransfer_ok_iff {st st0 st' : State} {evs evs' : List Event} {origin msgId : Bytes} {t : Abi.Transfer} :
    recvTransfer st st0 evs origin msgId t = .ok (st', evs') ↔
    ∃ recipient addr mgr, addrFromXdr t.dest = some recipient ∧ st0.registry t.tokenId = some (addr, mgr) ∧
      give st0 mgr addr recipient t.amount = .ok st' ∧
      (∀ d, t.data = some d → st'.executable recipient = true) ∧
      evs' = evs ++ evTransferReceived st origin t.tokenId t.source recipient t.amount t.data ::
        (match t.data with
         | none => []
         | some d => [evAppExecuted recipient origin msgId t.source d t.tokenId addr t.amount]) := by
  constructor
  · fun_cases recvTransfer st st0 evs origin msgId t <;> intro h <;> cases h
    · rename_i recipient h1 addr mgr h2 ev hd h3
      exact ⟨recipient, addr, mgr, h1, h2, h3, by simp [hd], by simp [ev, hd]⟩
    · rename_i recipient h1 addr mgr h2 ev d hd h3 hx
      exact ⟨recipient, addr, mgr, h1, h2, h3, fun _ _ => hx, by simp [ev, hd]⟩
  · rintro ⟨recipient, addr, mgr, h1, h2, h3, h4, rfl⟩
    unfold recvTransfer
    rw [h1, h2]; dsimp only; rw [h3]; dsimp only
    cases hd : t.data with
    | none => rfl
    | some d => dsimp only; rw [if_pos (h4 d hd)]

/-- the `DeployInterchainToken` arm of `execute_message` -/
def recvDeploy (S : Bytes → Bytes) (k : Consts) (st0 : State) (gwEvents : List Event) (d : Abi.Deploy) :
    Except Err (State × List Event) :=
  if (st0.registry d.tokenId).isSome then .error .tokenAlreadyDeployed
  else if !validMetadata d.name d.symbol d.decimals then .error .invalidTokenMetaData
  else
    match decodeMinter d.minter with
    | .error e => .error e
    | .ok mo =>
      match deployTokenContract S k st0 mo d.tokenId d.name d.symbol d.decimals with
      | .error e => .error e
      | .ok (st1, addr, ev) =>
        .ok ({ st1 with registry := fun x => if x = d.tokenId then some (addr, .native) else st1.registry x },
             gwEvents ++ [ev])

theorem recvDeploy_ok_iff {st0 : State} {evs : List Event} {d : Abi.Deploy} {r : State × List Event} :
    recvDeploy S k st0 evs d = .ok r ↔
    st0.registry d.tokenId = none ∧ validMetadata d.name d.symbol d.decimals = true ∧
    (∀ m, d.minter = some m → (addrFromXdr m).isSome = true) ∧
    st0.tokens (deployedAddress S k st0.self d.tokenId) = none ∧
    st0.executable (deployedAddress S k st0.self d.tokenId) = false ∧
    r = ({ setTok st0 (deployedAddress S k st0.self d.tokenId)
             (freshTok st0.self (d.minter.bind addrFromXdr) d.tokenId d.name d.symbol d.decimals) with
           registry := fun x => if x = d.tokenId then some (deployedAddress S k st0.self d.tokenId, .native)
                                else st0.registry x },
         evs ++ [evDeployed st0 d.tokenId (deployedAddress S k st0.self d.tokenId) d.name d.symbol d.decimals
                   (d.minter.bind addrFromXdr)]) := by
  constructor
  · fun_cases recvDeploy S k st0 evs d <;> intro h <;> cases h
    rename_i h1 h2 mo h3 st1 addr ev h5
    obtain ⟨rfl, h4⟩ := decodeMinter_ok_iff.mp h3
    obtain ⟨h6, h7, -, h8⟩ := deployTokenContract_ok_iff.mp h5
    cases h8
    exact ⟨by simpa using h1, by simpa using h2, h4, h6, h7, rfl⟩
  · rintro ⟨h1, h2, h3, h4, h5, rfl⟩
    unfold recvDeploy
    rw [h1, h2, decodeMinter_ok_iff.mpr ⟨rfl, h3⟩]
    simp only [Option.isSome_none, Bool.false_eq_true, if_false, Bool.not_true,
      deployTokenContract_ok_iff.mpr ⟨h4, h5, h2, rfl⟩]
    rfl

/-- `execute_message` once `get_execute_params` has passed; `gw'` and `gwEvs` are what the gateway returned -/
def recv (S : Bytes → Bytes) (k : Consts) (st : State) (gw' : Gateway.State) (gwEvs : List Gateway.Event)
    (origin msgId : Bytes) (inner : Abi.Msg) : Except Err (State × List Event) :=
  let gwEvents := gwEvs.map (fun e => (⟨st.gatewayAddr, e.topics, e.data⟩ : Event))
  match inner with
  | .transfer t => recvTransfer st { st with gw := gw' } gwEvents origin msgId t
  | .deploy d => recvDeploy S k { st with gw := gw' } gwEvents d

theorem execute_eq (st : State) (c i sa p : Bytes) :
    execute H S k st c i sa p =
      match Gateway.validateMessage H st.gw [st.self] st.self c i sa (H p) with
      | .error _ => .error .notApproved
      | .ok (_, false, _) => .error .notApproved
      | .ok (gw', true, gwEvs) =>
        match Abi.messageType p with
        | .error .insufficientMessageLength => .error .insufficientMessageLength
        | .error _ => .error .invalidMessageType
        | .ok ty =>
          if ty ≠ 4 then .error .invalidMessageType
          else if c ≠ k.hubChain then .error .invalidHubChain
          else match Abi.decodeHub p with
            | .error _ => .error .abiDecodeFailed
            | .ok (.sendToHub _ _) => .error .invalidMessageType
            | .ok (.receiveFromHub origin inner) =>
              if !st.trusted origin then .error .untrustedChain else recv S k st gw' gwEvs origin i inner := by
  unfold execute recv
  rfl

theorem execute_ok_iff {st : State} {c i sa p : Bytes} {r : State × List Event} :
    execute H S k st c i sa p = .ok r ↔
    st.gw.approvals c i = .approved (Gateway.messageHash H ⟨c, i, sa, st.self, H p⟩) ∧
    Abi.messageType p = .ok 4 ∧ c = k.hubChain ∧
    ∃ origin inner, Abi.decodeHub p = .ok (.receiveFromHub origin inner) ∧ st.trusted origin = true ∧
      recv S k st (Gateway.consumed st.gw c i) [Gateway.evExecuted ⟨c, i, sa, st.self, H p⟩] origin i inner = .ok r := by
  rw [execute_eq, Gateway.validateMessage_eq (List.mem_singleton.mpr rfl)]
  by_cases ha : st.gw.approvals c i = .approved (Gateway.messageHash H ⟨c, i, sa, st.self, H p⟩)
  · rw [if_pos ha]
    dsimp only
    constructor
    · intro h
      split at h
      · cases h
      · cases h
      rename_i ty hm
      rw [guard_ok_iff, guard_ok_iff, Decidable.not_not, Decidable.not_not] at h
      obtain ⟨rfl, rfl, h⟩ := h
      split at h
      · cases h
      · cases h
      rename_i origin inner hd
      obtain ⟨ht, h⟩ := guard_ok_iff.mp h
      exact ⟨ha, hm, rfl, origin, inner, hd, by simpa using ht, h⟩
    · rintro ⟨-, hm, rfl, origin, inner, hd, ht, h⟩
      simp only [hm, hd, ht, ne_eq, not_true_eq_false, if_false, Bool.not_true, Bool.false_eq_true]
      exact h
  · rw [if_neg ha]
    exact ⟨nofun, fun h => absurd h.1 ha⟩

theorem execute_gw {st : State} {c i sa p : Bytes} {r : State × List Event}
    (h : execute H S k st c i sa p = .ok r) : r.1.gw = Gateway.consumed st.gw c i := by
  obtain ⟨-, -, -, _, inner, -, -, hr⟩ := execute_ok_iff.mp h
  cases inner with
  | transfer t =>
    obtain ⟨_, _, _, -, -, hg, -⟩ := recvTransfer_ok_iff.mp hr
    rw [(give_ledger hg).1]
  | deploy d =>
    obtain ⟨-, -, -, -, -, rfl⟩ := recvDeploy_ok_iff.mp hr
    rfl

theorem give_hubAddress {st st' : State} {mgr : Manager} {addr rcp : Addr} {amount : Int} (o : Bytes)
    (h : give st mgr addr rcp amount = .ok st') :
    give { st with hubAddress := o } mgr addr rcp amount = .ok { st' with hubAddress := o } := by
  cases mgr
  · obtain ⟨t, h1, h2, h3, h4, h5, h6, rfl⟩ := tokMintByService_ok_iff.mp h
    exact tokMintByService_ok_iff.mpr ⟨t, h1, h2, h3, h4, h5, h6, rfl⟩
  · obtain ⟨t, h1, h2, h3, h4, h5, rfl⟩ := tokTransfer_ok_iff.mp h
    exact tokTransfer_ok_iff.mpr ⟨t, h1, h2, h3, h4, h5, rfl⟩

/-- `execute` never reads the configured hub address: with another one it does the same -/
theorem execute_hubAddress {st : State} {c i sa p : Bytes} {r : State × List Event} (o : Bytes)
    (h : execute H S k st c i sa p = .ok r) :
    execute H S k { st with hubAddress := o } c i sa p = .ok ({ r.1 with hubAddress := o }, r.2) := by
  obtain ⟨happ, hty, hc, origin, inner, hdec, htrust, hr⟩ := execute_ok_iff.mp h
  refine execute_ok_iff.mpr ⟨happ, hty, hc, origin, inner, hdec, htrust, ?_⟩
  cases inner with
  | transfer t =>
    obtain ⟨rcp, addr, mgr, h1, h2, h3, h4, h5⟩ := recvTransfer_ok_iff.mp hr
    have h3' := give_hubAddress o h3    -- on its own: against the expected type the unifier first unfolds `give` on both sides
    exact recvTransfer_ok_iff.mpr ⟨rcp, addr, mgr, h1, h2, h3', h4, h5⟩
  | deploy d =>
    obtain ⟨h1, h2, h3, h4, h5, rfl⟩ := recvDeploy_ok_iff.mp hr
    exact recvDeploy_ok_iff.mpr ⟨h1, h2, h3, h4, h5, rfl⟩

theorem wrapEv_ok {st : State} {r : Except Err (State × List Event)} {evs : List Event}
    (h : (wrapEv st r).2 = .ok evs) : r = .ok ((wrapEv st r).1, evs) := by
  cases r with
  | error e => cases h
  | ok x => cases h; rfl

variable (H S k)

/-- as `Gateway.Effect`: operations that only write single fields have their post-state written out; operations that move
    tokens name the ledger primitives that succeeded -/
inductive Effect (st : State) : Op → State × Obs → Prop
  | refused (op : Op) (e : Err) : Effect st op (st, .err e)
  | setTrusted {au c} (ho : st.owner ∈ au) (ht : st.trusted c = false) :
      Effect st (.setTrusted au c)
        ({ st with trusted := fun x => if x = c then true else st.trusted x }, .ok [evTrustedSet st c])
  | removeTrusted {au c} (ho : st.owner ∈ au) (ht : st.trusted c = true) :
      Effect st (.removeTrusted au c)
        ({ st with trusted := fun x => if x = c then false else st.trusted x }, .ok [evTrustedRemoved st c])
  | transferOwnership {au n evs} (ho : st.owner ∈ au) :
      Effect st (.transferOwnership au n) ({ st with owner := n }, .ok evs)
  | deploy {au ca sa n sy d su m tid addr evs} (htid : tid = interchainTokenId H k st.chainName ca sa)
      (haddr : addr = deployedAddress S k st.self tid) (hau : ca ∈ au) (htok : st.tokens addr = none) :
      Effect st (.deploy au ca sa n sy d su m)
        ({ setTok st addr (deployedTok st.self ca su m tid n sy d) with
             registry := fun x => if x = tid then some (addr, .native) else st.registry x }, .okId tid evs)
  | registerCanonical {t tid evs} (htid : tid = canonicalTokenId H k st.chainName t) (hfree : st.registry tid = none) :
      Effect st (.registerCanonical t)
        ({ st with registry := fun x => if x = tid then some (t, .lockUnlock) else st.registry x }, .okId tid evs)
  | deployRemote {au ca sa de gt ga st' tid evs} (hau : ca ∈ au)
      (hgas : tokTransfer st gt ca st.gasService ga true = .ok st') :
      Effect st (.deployRemote au ca sa de gt ga) ({ st with tokens := st'.tokens }, .okId tid evs)
  | deployRemoteCanonical {au t de sp gt ga st' tid evs} (hau : sp ∈ au)
      (hgas : tokTransfer st gt sp st.gasService ga true = .ok st') :
      Effect st (.deployRemoteCanonical au t de sp gt ga) ({ st with tokens := st'.tokens }, .okId tid evs)
  | transfer {au ca ti de da am dt gt ga addr mgr st1 st' evs} (hau : ca ∈ au) (hpos : 0 < am)
      (hreg : st.registry ti = some (addr, mgr)) (htake : take st mgr addr ca am = .ok st1)
      (hgas : tokTransfer st1 gt ca st1.gasService ga true = .ok st') :
      Effect st (.transfer au ca ti de da am dt gt ga) ({ st with tokens := st'.tokens }, .ok evs)
  | recvTransfer {c i sa p origin t rcp addr mgr st' evs}
      (happ : st.gw.approvals c i = .approved (Gateway.messageHash H ⟨c, i, sa, st.self, H p⟩))
      (hdec : Abi.decodeHub p = .ok (.receiveFromHub origin (.transfer t))) (hdest : addrFromXdr t.dest = some rcp)
      (hreg : st.registry t.tokenId = some (addr, mgr))
      (hgive : give { st with gw := Gateway.consumed st.gw c i } mgr addr rcp t.amount = .ok st') :
      Effect st (.execute c i sa p) ({ st with gw := Gateway.consumed st.gw c i, tokens := st'.tokens }, .ok evs)
  | recvDeploy {c i sa p origin d addr evs}
      (happ : st.gw.approvals c i = .approved (Gateway.messageHash H ⟨c, i, sa, st.self, H p⟩))
      (hdec : Abi.decodeHub p = .ok (.receiveFromHub origin (.deploy d)))
      (haddr : addr = deployedAddress S k st.self d.tokenId) (hfree : st.registry d.tokenId = none)
      (htok : st.tokens addr = none) :
      Effect st (.execute c i sa p)
        ({ setTok { st with gw := Gateway.consumed st.gw c i } addr
             (freshTok st.self (d.minter.bind addrFromXdr) d.tokenId d.name d.symbol d.decimals) with
           registry := fun x => if x = d.tokenId then some (addr, .native) else st.registry x }, .ok evs)
  | gateway (f : Gateway.State → Gateway.State) : Effect st (.gateway f) ({ st with gw := f st.gw }, .ok [])
  | userTransfer {t s d a au st'} (hs : s ≠ st.self) (hd : d ≠ st.self) (h : tokTransfer st t s d a au = .ok st') :
      Effect st (.userTransfer t s d a au) ({ st with tokens := st'.tokens }, .ok [])
  | minterMint {t m d a au tk} (htk : st.tokens t = some tk) (h0 : 0 ≤ a) :
      Effect st (.minterMint t m d a au) (setTok st t { tk with bal := bump tk.bal d a }, .ok [])
  | upgradeMigrate {au} (ho : st.owner ∈ au) : Effect st (.upgradeMigrate au) (st, .ok [])

theorem step_effect (st : State) (op : Op) : Effect H S k st op (step H S k st op) := by
  cases op with
  | setTrusted au c =>
    simp only [step]
    cases h : setTrustedChain st au c with
    | error e => exact .refused _ e
    | ok r => obtain ⟨ho, ht, rfl⟩ := setTrustedChain_ok_iff.mp h; exact .setTrusted ho ht
  | removeTrusted au c =>
    simp only [step]
    cases h : removeTrustedChain st au c with
    | error e => exact .refused _ e
    | ok r => obtain ⟨ho, ht, rfl⟩ := removeTrustedChain_ok_iff.mp h; exact .removeTrusted ho ht
  | transferOwnership au n =>
    simp only [step]
    cases h : transferOwnership st au n with
    | error e => exact .refused _ e
    | ok r => obtain ⟨ho, rfl⟩ := transferOwnership_ok_iff.mp h; exact .transferOwnership ho
  | deploy au ca sa n sy d su m =>
    simp only [step]
    cases h : deployInterchainToken H S k st au ca sa n sy d su m with
    | error e => exact .refused _ e
    | ok r =>
      obtain ⟨hau, -, htok, -, -, -, rfl⟩ := deployInterchainToken_ok h
      exact .deploy rfl rfl hau htok
  | registerCanonical t =>
    simp only [step]
    cases h : registerCanonicalToken H k st t with
    | error e => exact .refused _ e
    | ok r => obtain ⟨hfree, rfl⟩ := registerCanonicalToken_ok_iff.mp h; exact .registerCanonical rfl hfree
  | deployRemote au ca sa de gt ga =>
    simp only [step]
    cases h : deployRemoteInterchainToken H k st au ca sa de gt ga with
    | error e => exact .refused _ e
    | ok r =>
      obtain ⟨st', tid, evs⟩ := r
      obtain ⟨hau, h⟩ := deployRemoteInterchainToken_ok_iff.mp h
      obtain ⟨-, _, _, _, _, -, -, -, hp, -⟩ := deployRemoteToken_ok h
      obtain ⟨-, -, -, _, -, hg, -⟩ := payGasAndCall_ok hp
      rw [(tokTransfer_ledger hg).1]
      exact .deployRemote hau hg
  | deployRemoteCanonical au t de sp gt ga =>
    simp only [step]
    cases h : deployRemoteCanonicalToken H k st au t de sp gt ga with
    | error e => exact .refused _ e
    | ok r =>
      obtain ⟨st', tid, evs⟩ := r
      obtain ⟨-, _, _, _, _, -, -, -, hp, -⟩ := deployRemoteToken_ok h
      obtain ⟨-, hau, -, _, -, hg, -⟩ := payGasAndCall_ok hp
      rw [(tokTransfer_ledger hg).1]
      exact .deployRemoteCanonical (of_decide_eq_true hau) hg
  | transfer au ca ti de da am dt gt ga =>
    simp only [step]
    cases h : interchainTransfer H k st au ca ti de da am dt gt ga with
    | error e => exact .refused _ e
    | ok r =>
      obtain ⟨st', evs⟩ := r
      obtain ⟨hpos, hau, _, _, _, _, hreg, h1, h2, -⟩ := interchainTransfer_ok h
      obtain ⟨-, -, -, _, -, hg, -⟩ := payGasAndCall_ok h2
      rw [((take_ledger h1).trans (tokTransfer_ledger hg)).1]
      exact .transfer hau hpos hreg h1 hg
  | execute c i sa p =>
    simp only [step]
    cases h : execute H S k st c i sa p with
    | error e => exact .refused _ e
    | ok r =>
      obtain ⟨st', evs⟩ := r
      obtain ⟨happ, -, -, origin, inner, hdec, -, hr⟩ := execute_ok_iff.mp h
      cases inner with
      | transfer t =>
        obtain ⟨_, _, _, hdest, hreg, hg, -⟩ := recvTransfer_ok_iff.mp hr
        rw [show st' = _ from (give_ledger hg).1]
        exact .recvTransfer happ hdec hdest hreg hg
      | deploy d =>
        obtain ⟨hfree, -, -, htok, -, hr'⟩ := recvDeploy_ok_iff.mp hr
        cases hr'
        exact .recvDeploy happ hdec rfl hfree htok
  | gateway f => exact .gateway f
  | userTransfer t s d a au =>
    simp only [step]
    split
    · exact .refused _ _
    · rename_i hn
      split
      · rename_i st' h
        rw [(tokTransfer_ledger h).1]
        exact .userTransfer (fun e => hn (.inl e)) (fun e => hn (.inr e)) h
      · exact .refused _ _
  | minterMint t m d a au =>
    simp only [step]
    split
    · split
      · exact .refused _ _
      · rename_i hc
        simp only [not_or, Int.not_lt] at hc
        exact .minterMint ‹_› hc.2.2.2.2.1
    · exact .refused _ _
  | upgradeMigrate au =>
    simp only [step]
    split
    · exact .upgradeMigrate ‹_›
    · exact .refused _ _

theorem step_err (st : State) (op : Op) (e : Err) (h : (step H S k st op).2 = .err e) : (step H S k st op).1 = st := by
  have he := step_effect H S k st op
  generalize step H S k st op = r at he h
  cases he with
  | refused => rfl
  | _ => cases h

theorem step_upgradeMigrate_fst {st : State} {au : List Addr} : (step H S k st (.upgradeMigrate au)).1 = st := by
  simp only [step]; split <;> rfl

theorem step_upgradeMigrate_snd {st : State} {au : List Addr} :
    (step H S k st (.upgradeMigrate au)).2 = .ok [] ∨ (step H S k st (.upgradeMigrate au)).2 = .err .unauthorized := by
  simp only [step]; split
  · exact Or.inl rfl
  · exact Or.inr rfl

theorem step_config (st : State) (op : Op) :
    (step H S k st op).1.self = st.self ∧ (step H S k st op).1.chainName = st.chainName ∧
    (step H S k st op).1.gasService = st.gasService ∧ (step H S k st op).1.gatewayAddr = st.gatewayAddr ∧
    (step H S k st op).1.hubAddress = st.hubAddress ∧ (step H S k st op).1.executable = st.executable := by
  have he := step_effect H S k st op
  generalize step H S k st op = r at he ⊢
  cases he <;> exact ⟨rfl, rfl, rfl, rfl, rfl, rfl⟩

theorem step_self (st : State) (op : Op) : (step H S k st op).1.self = st.self := (step_config H S k st op).1

theorem step_chainName (st : State) (op : Op) : (step H S k st op).1.chainName = st.chainName :=
  (step_config H S k st op).2.1

theorem step_tokens (st : State) (op : Op) (a : Addr) (h : (st.tokens a).isSome = true) :
    ((step H S k st op).1.tokens a).isSome = true := by
  have he := step_effect H S k st op
  generalize step H S k st op = r at he ⊢
  cases he with
  | deployRemote _ hg | deployRemoteCanonical _ hg | userTransfer _ _ hg => exact (tokTransfer_ledger hg).2 a h
  | transfer _ _ _ h1 hg => exact ((take_ledger h1).trans (tokTransfer_ledger hg)).2 a h
  | recvTransfer _ _ _ _ hg => exact (give_ledger hg).2 a h
  | deploy | recvDeploy | minterMint => exact (Ledger.setTok _ _ _).2 a h
  | _ => exact h

theorem step_gw (st : State) (op : Op) :
    (step H S k st op).1.gw = st.gw ∨ (∃ f, op = .gateway f) ∨
    ∃ c i sa p evs, op = .execute c i sa p ∧ (step H S k st op).2 = .ok evs ∧
      st.gw.approvals c i = .approved (Gateway.messageHash H ⟨c, i, sa, st.self, H p⟩) ∧
      (step H S k st op).1.gw = Gateway.consumed st.gw c i := by
  have he := step_effect H S k st op
  generalize step H S k st op = r at he ⊢
  cases he with
  | recvTransfer happ | recvDeploy happ => exact .inr (.inr ⟨_, _, _, _, _, rfl, rfl, happ, rfl⟩)
  | gateway f => exact .inr (.inl ⟨f, rfl⟩)
  | _ => exact .inl rfl

end Cgp.Its
