/-
  Invariants for the history theorems of C01, C03, C04 and C16: `AInv` (the auth invariant, and every recorded set is typed)
  and `SInv` (nothing is recorded beyond the current epoch); under `AInv` an accepted proof is a valid proof.
-/
import Cgp.Proofs.C03
import Cgp.Proofs.Sc
namespace Cgp.Proofs.C03H
open Cgp.Gateway

variable (H : Bytes → Bytes) {σ : Type} (V : Bytes → Bytes → σ → Bool)

theorem validateProof_iff (st : State) (dh : Bytes) (proof : Proof σ) (hthr : 0 < proof.threshold) :
    (∃ b, validateProof H V st dh proof = .ok b) ↔ ProofValid H V st dh proof := by
  unfold ProofValid
  constructor
  · rintro ⟨b, hb⟩
    obtain ⟨e, he, h1, h2, hl, _⟩ := validateProof_ok_iff.mp hb
    exact ⟨e, he, h1, h2, (validateSignatures_ok_iff hthr).mp hl⟩
  · rintro ⟨e, he, h1, h2, hs⟩
    exact ⟨e == st.epoch, validateProof_ok_iff.mpr ⟨e, he, h1, h2, (validateSignatures_ok_iff hthr).mpr hs, rfl⟩⟩

def AInv (st : State) : Prop := GInv H st ∧ ∀ e ws, st.setAt e = some ws → ws.Typed

theorem AInv_auth : C03.AuthInv H WSigners.Typed (AInv H) where
  congr := fun hs h => ⟨(C03.GInv_auth H).congr hs h.1, fun e ws hws => h.2 e ws (hs.2.2.2 ▸ hws)⟩
  init := ⟨(C03.GInv_auth H).init, nofun⟩
  rotated := fun hty hwf hn h => by
    refine ⟨(C03.GInv_auth H).rotated trivial hwf hn h.1, fun e ws' hws => ?_⟩
    simp only [rotated] at hws
    split at hws
    · cases hws; exact hty
    · exact h.2 e ws' hws

theorem AInv_step (w : World) (op : Op σ) (hty : op.Typed) (h : AInv H w.st) : AInv H (step H V w op).1.st :=
  (AInv_auth H).step V w op (fun _ _ _ _ e => (e ▸ hty : Op.Typed (.rotate ..)).1) h

theorem accepted_set {st : State} (hinv : AInv H st) {dh : Bytes} {proof : Proof σ} {b : Bool}
    (htyped : proof.weightedSigners.Typed) (h : validateProof H V st dh proof = .ok b) :
    (∃ e, st.setAt e = some proof.weightedSigners ∧ WellFormed proof.weightedSigners ∧ e ≤ st.epoch ∧
      st.epoch - e ≤ st.retention) ∨ Collision H := by
  obtain ⟨e, he, h1, h2, _, _⟩ := validateProof_ok_iff.mp h
  obtain ⟨ws, hws, hh, hwf⟩ := hinv.1.ghost e _ (hinv.1.bwd e _ he)
  exact (signersHash_binds H (hinv.2 e ws hws) htyped hh).imp_left fun heq => by subst heq; exact ⟨e, hws, hwf, h1, h2⟩

theorem proofValid_of_ok {st : State} (hinv : AInv H st) {dh : Bytes} {proof : Proof σ} {b : Bool}
    (htyped : proof.weightedSigners.Typed) (h : validateProof H V st dh proof = .ok b) :
    ProofValid H V st dh proof ∨ Collision H :=
  (accepted_set H V hinv htyped h).imp_left fun ⟨_, _, hwf, _⟩ =>
    (validateProof_iff H V st dh proof hwf.threshold_pos).mp ⟨b, h⟩

/-- closes the first branch of `Run.origin` in `Props.C03.installed_was_authorised`: a set found beyond the starting epoch was
    not there at the start -/
def SInv (st : State) : Prop := ∀ e, st.epoch < e → st.setAt e = none

theorem SInv_auth : C03.AuthInv H (fun _ => True) SInv where
  congr := fun ⟨_, _, h3, h4⟩ h e he => by rw [h4]; exact h e (h3 ▸ he)
  init := fun _ _ => rfl
  rotated := fun _ _ _ h e he => (if_neg (Nat.ne_of_gt he)).trans (h e (Nat.lt_of_succ_lt he))

theorem SInv_step (w : World) (op : Op σ) (h : SInv w.st) : SInv (step H V w op).1.st :=
  (SInv_auth H).step V w op (fun _ _ _ _ _ => trivial) h

/-- the one-step clause of `Run.origin` for `installed_was_authorised` -/
theorem step_installed (w : World) (op : Op σ) (hty : op.Typed) (hinv : AInv H w.st) (e : Nat) (ws : WSigners)
    (h1 : (step H V w op).1.st.setAt e = some ws) :
    w.st.setAt e = some ws ∨
    (∃ auths proof bypass evs, op = .rotate auths ws proof bypass ∧ (step H V w op).2 = .ok evs ∧
        w.st.epoch + 1 = e ∧ WellFormed ws ∧ ProofValid H V w.st (rotateDataHash H ws) proof ∧
        (bypass = true → w.st.operator ∈ auths) ∧
        (bypass = false →
          w.st.epochByHash (signersHash H proof.weightedSigners) = some w.st.epoch ∧
          w.st.lastRot.getD 0 ≤ w.now ∧ w.st.minDelay ≤ w.now - w.st.lastRot.getD 0)) ∨ Collision H := by
  have h := step_effect H V w op
  generalize step H V w op = r at h h1 ⊢
  cases h with
  | @rotate auths ws' proof bypass b hop hv hl hwf hd hn =>
    by_cases hE : e = w.st.epoch + 1
    · cases (if_pos hE).symm.trans h1
      exact Or.inr ((proofValid_of_ok H V hinv hty.2 hv).imp_left fun hp =>
        ⟨auths, proof, bypass, _, rfl, rfl, hE.symm, hwf, hp, hop, fun hb => ⟨(validateProof_latest hv).mp (hl hb), hd hb⟩⟩)
    · exact Or.inl ((if_neg hE).symm.trans h1)
  | _ => exact Or.inl h1

end Cgp.Proofs.C03H
