/-
  The generic head/tail codec, for any list of fields: lenient parsing inverts encoding, strict decoding accepts exactly the
  canonical encodings; what the ITS messages, which all start with a type word, take from it (`typed_encode`,
  `typed_decode`); and what each decoder does with a decoded sequence (the `_ok_iff`s).
-/
import Cgp.Abi

namespace Cgp.Abi

theorem ofBE_word (n : Nat) (h : n < 256 ^ 32) : ofBE (word n) = n := ofBE_beN 32 n h

theorem word_ofBE (w : Bytes) (h : w.length = 32) : word (ofBE w) = w := by
  unfold word; rw [← h]; exact beN_ofBE w

theorem tailOf_length (b : Bytes) : (tailOf b).length = 32 + b.length + padTo32 b.length := by
  simp [tailOf, word_length, Nat.add_assoc]

theorem encAux_heads_length (fs : List Field) (off : Nat) (h : ∀ f ∈ fs, f.WF) :
    (encAux fs off).1.length = 32 * fs.length := by
  induction fs generalizing off with
  | nil => rfl
  | cons f fs ih =>
    have hfs : ∀ f ∈ fs, f.WF := fun f hf => h f (List.mem_cons_of_mem _ hf)
    cases f with
    | w x =>
      simp only [encAux, List.length_append, List.length_cons, ih off hfs, show x.length = 32 from h _ List.mem_cons_self]
      omega
    | d b => simp only [encAux, List.length_append, List.length_cons, ih _ hfs, word_length]; omega

theorem encAux_tail_ge (fs : List Field) (off : Nat) (b : Bytes) (h : Field.d b ∈ fs) :
    b.length ≤ (encAux fs off).2.length := by
  induction fs generalizing off with
  | nil => cases h
  | cons f fs ih =>
    cases f with
    | w x => exact ih off (by simpa using h)
    | d c =>
      rcases List.mem_cons.mp h with h | h
      · cases h; simp [encAux, tailOf_length]; omega
      · have := ih (off + (tailOf c).length) h
        simp only [encAux, List.length_append]; omega

theorem encAux_length (fs : List Field) (off : Nat) :
    (encAux fs off).1.length + (encAux fs off).2.length =
      (fs.map fun | .w x => x.length | .d b => 64 + b.length + padTo32 b.length).sum := by
  induction fs generalizing off with
  | nil => rfl
  | cons f fs ih =>
    cases f with
    | w x => simp only [encAux, List.length_append, List.map_cons, List.sum_cons, ← ih off]; omega
    | d b =>
      simp only [encAux, List.length_append, List.map_cons, List.sum_cons, ← ih (off + (tailOf b).length),
        tailOf_length, word_length]; omega

theorem encodeSeq_length (fs : List Field) :
    (encodeSeq fs).length = (fs.map fun | .w x => x.length | .d b => 64 + b.length + padTo32 b.length).sum := by
  simp only [encodeSeq, List.length_append, encAux_length]

end Cgp.Abi

namespace Cgp.Proofs.C10
open Cgp.Abi

theorem readTail (b rest : Bytes) (hb : b.length < 256 ^ 32) :
    ¬ ((tailOf b ++ rest).length < 32) ∧
    ofBE ((tailOf b ++ rest).take 32) = b.length ∧
    ¬ (((tailOf b ++ rest).drop 32).length < b.length) ∧
    ((tailOf b ++ rest).drop 32).take b.length = b := by
  have hl := word_length b.length
  simp only [tailOf, List.append_assoc, List.take_left' hl, List.drop_left' hl, List.take_left' rfl]
  exact ⟨by simp [hl], ofBE_word _ hb, by simp, trivial⟩

/-- the buffer is generalised to `pre ++ tails ++ post` with `pre.length = off` so that the induction on `fs` goes through -/
theorem parseAux_encAux (fs : List Field) (off : Nat) (pre post hrest : Bytes)
    (hwf : ∀ f ∈ fs, f.WF) (hpre : pre.length = off)
    (hoff : off + (encAux fs off).2.length < 256 ^ 32) :
    parseAux (fs.map kindOf) ((encAux fs off).1 ++ hrest) (pre ++ (encAux fs off).2 ++ post) = some fs := by
  fun_induction encAux fs off generalizing pre with
  | case1 => rfl
  | case2 x fs off h t he ih =>
    have hx : x.length = 32 := hwf _ List.mem_cons_self
    have := ih pre (fun f hf => hwf f (List.mem_cons_of_mem _ hf)) hpre (he ▸ hoff)
    simp only [he, List.append_assoc] at this
    simp only [List.map_cons, kindOf, parseAux, List.append_assoc, List.take_left' hx, List.drop_left' hx, this]
    rw [if_neg (by simp [hx])]
  | case3 b fs off h t he ih =>
    have hb : b.length < 256 ^ 32 := hwf _ List.mem_cons_self
    have hl := word_length off
    simp only [List.length_append] at hoff
    obtain ⟨r1, r2, r3, r4⟩ := readTail b (t ++ post) hb
    have := ih (pre ++ tailOf b) (fun f hf => hwf f (List.mem_cons_of_mem _ hf)) (by simp [hpre]) (by simp only [he]; omega)
    simp only [he, List.append_assoc] at this
    -- the head word is `off`; at `off` in the whole buffer stands `tailOf b`
    simp only [List.map_cons, kindOf, parseAux, List.append_assoc, List.take_left' hl, List.drop_left' hl,
      ofBE_word off (by omega), List.drop_left' hpre, r2, r4, this]
    rw [if_neg (by simp [hl]), if_neg r1, if_neg r3]

theorem parse_encode (fs : List Field) (hwf : ∀ f ∈ fs, f.WF)
    (hsz : (encodeSeq fs).length < 256 ^ 32) :
    parseAux (fs.map kindOf) (encodeSeq fs) (encodeSeq fs) = some fs := by
  unfold encodeSeq at *
  have hh := encAux_heads_length fs (32 * fs.length) hwf
  have := parseAux_encAux fs (32 * fs.length) (encAux fs (32 * fs.length)).1 [] (encAux fs (32 * fs.length)).2 hwf hh
    (by simp only [List.length_append] at hsz; omega)
  simpa using this

end Cgp.Proofs.C10

namespace Cgp.Abi

theorem decodeSeq_some_iff {ks : List Bool} {b : Bytes} {fs : List Field} :
    decodeSeq ks b = some fs ↔ parseAux ks b b = some fs ∧ encodeSeq fs = b := by
  unfold decodeSeq
  cases parseAux ks b b with
  | none => exact ⟨nofun, fun h => nomatch h.1⟩
  | some fs' =>
    rw [Option.ite_none_right_eq_some]
    exact ⟨fun ⟨h, e⟩ => ⟨e, Option.some.inj e ▸ h⟩, fun ⟨e, h⟩ => ⟨Option.some.inj e ▸ h, e⟩⟩

theorem parseAux_shape {ks : List Bool} {heads whole : Bytes} {fs : List Field}
    (h : parseAux ks heads whole = some fs) :
    fs.map kindOf = ks ∧ (∀ f ∈ fs, ∀ x, f = .w x → x.length = 32) := by
  -- the parser puts a word (case4) or a dynamic field (case9) in front of a recursive result, or fails
  fun_induction parseAux ks heads whole generalizing fs with
  | case1 => cases h; simp
  | @case4 ks heads whole hl fs' hp ih =>
    cases h
    obtain ⟨h1, h2⟩ := ih hp
    exact ⟨by rw [List.map_cons, h1]; rfl, List.forall_mem_cons.mpr ⟨fun x hx => by cases hx; simp; omega, h2⟩⟩
  | @case9 ks heads whole _ _ _ _ _ _ _ fs' hp ih =>
    cases h
    obtain ⟨h1, h2⟩ := ih hp
    exact ⟨by rw [List.map_cons, h1]; rfl, List.forall_mem_cons.mpr ⟨fun x hx => (nomatch hx), h2⟩⟩
  | _ => cases h

theorem wf_of_size (fs : List Field) (hw : ∀ x, Field.w x ∈ fs → x.length = 32)
    (hsz : (encodeSeq fs).length < 256 ^ 32) : ∀ f ∈ fs, f.WF := by
  intro f hf
  cases f with
  | w x => exact hw x hf
  | d b =>
    have := encAux_tail_ge fs (32 * fs.length) b hf
    simp only [encodeSeq, List.length_append] at hsz
    simp only [Field.WF]
    omega

theorem messageType_ok_iff {b : Bytes} {n : Nat} :
    messageType b = .ok n ↔ 32 ≤ b.length ∧ ofBE (b.take 32) = n ∧ n < 5 := by
  constructor
  · fun_cases messageType b with
    | case2 hl h5 => rintro ⟨⟩; exact ⟨Nat.not_lt.mp hl, rfl, h5⟩
    | _ => intro h; cases h
  · rintro ⟨h1, rfl, h3⟩
    rw [messageType, if_neg (Nat.not_lt.mpr h1), if_pos h3]

/-- `hw` is stated by membership so that `simp` closes it for a literal list of fields -/
theorem typed_encode (n : Nat) (fs : List Field) (hn : n < 5) (hw : ∀ x, Field.w x ∈ fs → x.length = 32)
    (hsz : (encodeSeq (.w (word n) :: fs)).length < 256 ^ 32) :
    messageType (encodeSeq (.w (word n) :: fs)) = .ok n ∧
    decodeSeq (false :: fs.map kindOf) (encodeSeq (.w (word n) :: fs)) = some (.w (word n) :: fs) ∧
    ∀ b, Field.d b ∈ fs → b.length < 256 ^ 32 := by
  have hl := word_length n
  have hfw := wf_of_size (.w (word n) :: fs)
    (fun x hx => (List.mem_cons.mp hx).elim (fun h => Field.w.inj h ▸ hl) (hw x)) hsz
  refine ⟨?_, decodeSeq_some_iff.mpr ⟨Proofs.C10.parse_encode (.w (word n) :: fs) hfw hsz, rfl⟩,
    fun b hb => hfw (.d b) (List.mem_cons_of_mem _ hb)⟩
  rw [messageType_ok_iff]
  simp only [encodeSeq, encAux, List.append_assoc, List.take_left' hl, ofBE_word n (Nat.lt_trans hn (by decide))]
  exact ⟨by simp [hl], trivial, hn⟩

theorem typed_decode {ks : List Bool} {b x0 : Bytes} {fs : List Field} {ty : Nat} (hmt : messageType b = .ok ty)
    (hds : decodeSeq ks b = some (.w x0 :: fs)) :
    x0 = word ty ∧ encodeSeq (.w (word ty) :: fs) = b ∧ ∀ x, Field.w x ∈ fs → x.length = 32 := by
  obtain ⟨hp, he⟩ := decodeSeq_some_iff.mp hds
  obtain ⟨h0, hw⟩ := List.forall_mem_cons.mp (parseAux_shape hp).2
  have hx0 : x0.length = 32 := h0 x0 rfl
  obtain ⟨_, hty, _⟩ := messageType_ok_iff.mp hmt
  rw [← he] at hty
  simp only [encodeSeq, encAux, List.append_assoc, List.take_left' hx0] at hty
  rw [← hty, word_ofBE x0 hx0]
  exact ⟨rfl, he, fun x hx => hw _ hx x rfl⟩

theorem optBytes_ofBytesOpt (b : Bytes) : optBytes (ofBytesOpt b) = b := by
  cases b <;> rfl

theorem ofBytesOpt_optBytes (o : Option Bytes) : ofBytesOpt (optBytes o) = normOpt o := by
  rcases o with _ | _ | _ <;> rfl

theorem normOpt_ofBytesOpt (b : Bytes) : normOpt (ofBytesOpt b) = ofBytesOpt b := by
  cases b <;> rfl

theorem encodeMsg_transfer_ok_iff {t : Transfer} {b : Bytes} :
    encodeMsg (.transfer t) = .ok b ↔ 0 ≤ t.amount ∧ encodeSeq (transferFields t) = b := by
  rw [encodeMsg, guard_ok_iff, Int.not_lt, Except.ok.injEq]

theorem encodeMsg_deploy_ok_iff {d : Deploy} {b : Bytes} : encodeMsg (.deploy d) = .ok b ↔
    validUtf8 d.name = true ∧ validUtf8 d.symbol = true ∧ encodeSeq (deployFields d) = b := by
  simp only [encodeMsg, guard_ok_iff, Except.ok.injEq, not_or, Bool.not_eq_true', Bool.not_eq_false, and_assoc]

theorem encodeHub_ok_iff {hm : HubMsg} {b : Bytes} : encodeHub hm = .ok b ↔
    ∃ ty chain m inner, (ty = 3 ∨ ty = 4) ∧ hm = (if ty = 3 then .sendToHub chain m else .receiveFromHub chain m) ∧
      validUtf8 chain = true ∧ encodeMsg m = .ok inner ∧ encodeSeq [.w (word ty), .d chain, .d inner] = b := by
  constructor
  · fun_cases encodeHub hm with
    | case3 chain m hc inner hi =>
      rintro ⟨⟩
      exact ⟨3, chain, m, inner, Or.inl rfl, rfl, by simpa using hc, hi, rfl⟩
    | case6 chain m hc inner hi =>
      rintro ⟨⟩
      exact ⟨4, chain, m, inner, Or.inr rfl, rfl, by simpa using hc, hi, rfl⟩
    | _ => intro h; cases h
  · rintro ⟨ty, chain, m, inner, rfl | rfl, rfl, hc, hi, rfl⟩ <;> simp [encodeHub, hc, hi]

theorem toI128_ok_iff {w : Bytes} {a : Int} : toI128 w = .ok a ↔ ofBE w < 2 ^ 127 ∧ a = (ofBE w : Nat) := by
  unfold toI128
  split <;> simp [*, eq_comm]

theorem decodeMsg_ok_iff {b : Bytes} {m : Msg} : decodeMsg b = .ok m ↔
    (∃ x0 tid src dst amt data, messageType b = .ok 0 ∧
        decodeSeq transferKinds b = some [.w x0, .w tid, .d src, .d dst, .w amt, .d data] ∧
        ofBE amt < 2 ^ 127 ∧ m = .transfer ⟨tid, src, dst, ((ofBE amt : Nat) : Int), ofBytesOpt data⟩) ∨
    (∃ x0 tid name symbol dec minter, messageType b = .ok 1 ∧
        decodeSeq deployKinds b = some [.w x0, .w tid, .d name, .d symbol, .w dec, .d minter] ∧
        validUtf8 name = true ∧ validUtf8 symbol = true ∧ ofBE dec < 256 ∧
        m = .deploy ⟨tid, name, symbol, ofBE dec, ofBytesOpt minter⟩) := by
  constructor
  · -- the decoder returns a message in two of its branches and an error in all others
    fun_cases decodeMsg b with
    | case3 x0 tid src dst amt data hds a ha hmt =>
      rintro ⟨⟩
      obtain ⟨h1, rfl⟩ := toI128_ok_iff.mp ha
      exact Or.inl ⟨x0, tid, src, dst, amt, data, hmt, hds, h1, rfl⟩
    | case6 x0 tid name symbol dec minter hds hc hmt =>
      rintro ⟨⟩
      obtain ⟨hn, hs, hd⟩ : validUtf8 name = true ∧ validUtf8 symbol = true ∧ ofBE dec < 256 := by
        simpa [Nat.not_le] using hc
      exact Or.inr ⟨x0, tid, name, symbol, dec, minter, hmt, hds, hn, hs, hd, rfl⟩
    | _ => intro h; cases h
  · rintro (⟨x0, tid, src, dst, amt, data, hmt, hds, ha, rfl⟩ | ⟨x0, tid, name, symbol, dec, minter, hmt, hds, hn, hs, hd, rfl⟩)
    · simp [decodeMsg, hmt, hds, toI128, ha]
    · simp [decodeMsg, hmt, hds, hn, hs, Nat.not_le.mpr hd]

theorem decodeHub_ok_iff {b : Bytes} {hm : HubMsg} : decodeHub b = .ok hm ↔
    ∃ ty x0 chain inner m, (ty = 3 ∨ ty = 4) ∧ messageType b = .ok ty ∧
      decodeSeq hubKinds b = some [.w x0, .d chain, .d inner] ∧ validUtf8 chain = true ∧
      decodeMsg inner = .ok m ∧ hm = (if ty = 3 then .sendToHub chain m else .receiveFromHub chain m) := by
  constructor
  · fun_cases decodeHub b with
    | case4 ty hmt hty x0 chain inner hds hc m hdm =>
      rintro ⟨⟩
      exact ⟨ty, x0, chain, inner, m, hty, hmt, hds, by simpa using hc, hdm, rfl⟩
    | _ => intro h; cases h
  · rintro ⟨ty, x0, chain, inner, m, hty, hmt, hds, hc, hdm, rfl⟩
    simp [decodeHub, hmt, hds, hty, hc, hdm]

theorem decodeMsg_type {b : Bytes} {m : Msg} (h : decodeMsg b = .ok m) :
    32 ≤ b.length ∧ (ofBE (b.take 32) = 0 ∨ ofBE (b.take 32) = 1) := by
  rcases decodeMsg_ok_iff.mp h with ⟨_, _, _, _, _, _, hmt, _⟩ | ⟨_, _, _, _, _, _, hmt, _⟩
  · exact ⟨(messageType_ok_iff.mp hmt).1, .inl (messageType_ok_iff.mp hmt).2.1⟩
  · exact ⟨(messageType_ok_iff.mp hmt).1, .inr (messageType_ok_iff.mp hmt).2.1⟩

theorem decodeHub_type {b : Bytes} {hm : HubMsg} (h : decodeHub b = .ok hm) :
    32 ≤ b.length ∧ (ofBE (b.take 32) = 3 ∨ ofBE (b.take 32) = 4) := by
  obtain ⟨ty, _, _, _, _, hty, hmt, _⟩ := decodeHub_ok_iff.mp h
  obtain ⟨hl, rfl, _⟩ := messageType_ok_iff.mp hmt
  exact ⟨hl, hty⟩

end Cgp.Abi
