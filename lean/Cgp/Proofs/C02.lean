/-
  The message status of C02: how one operation, and hence any history, can move it (`Adv`).
-/
import Cgp.Proofs.Gateway
namespace Cgp.Proofs.C02
open Cgp.Gateway

variable (H : Bytes → Bytes) {σ : Type} (V : Bytes → Bytes → σ → Bool)

/-- how a message status can move, in one operation or in many: not at all, away from not-approved, or from approved to
    executed (an approved record is never replaced by another approved record) -/
def Adv (a b : Approval) : Prop :=
  a = b ∨ a = .notApproved ∨ ((∃ h, a = .approved h) ∧ b = .executed)

theorem Adv.refl (a : Approval) : Adv a a := Or.inl rfl

theorem Adv.executed {a b : Approval} (h : Adv a b) (ha : a = .executed) : b = .executed := by
  subst ha
  rcases h with rfl | ⟨⟨⟩⟩ | ⟨⟨_, ⟨⟩⟩, _⟩
  rfl

theorem Adv.trans {a b c : Approval} (h1 : Adv a b) (h2 : Adv b c) : Adv a c := by
  rcases h1 with rfl | h | ⟨ha, hb⟩
  · exact h2
  · exact Or.inr (Or.inl h)
  · exact Or.inr (Or.inr ⟨ha, h2.executed hb⟩)

theorem Adv.rank {a b : Approval} (h : Adv a b) : a.rank ≤ b.rank := by
  rcases h with rfl | rfl | ⟨⟨_, rfl⟩, rfl⟩
  · exact Nat.le_refl _
  · exact Nat.zero_le _
  · exact Nat.le_succ 1

theorem consumed_adv (st : State) {c i h : Bytes} (hr : st.approvals c i = .approved h) (c' i' : Bytes) :
    Adv (st.approvals c' i') ((consumed st c i).approvals c' i') := by
  by_cases hci : c' = c ∧ i' = i
  · obtain ⟨rfl, rfl⟩ := hci
    exact Or.inr (Or.inr ⟨⟨_, hr⟩, consumed_self st c' i'⟩)
  · exact Or.inl (consumed_other hci).symm

theorem step_adv (w : World) (op : Op σ) (c i : Bytes) :
    Adv (w.st.approvals c i) ((step H V w op).1.st.approvals c i) := by
  have h := step_effect H V w op
  generalize step H V w op = r at h ⊢
  cases h with
  | @approve ms =>
    rcases approveLoop_approvals H ms w.st c i with h | ⟨h, _⟩
    · exact Or.inl h.symm
    · exact Or.inr (Or.inl h)
  | consume _ hr => exact consumed_adv w.st hr c i
  | _ => exact Adv.refl _

theorem step_executed (w : World) (op : Op σ) (c i : Bytes) (h0 : w.st.approvals c i = .executed) :
    (step H V w op).1.st.approvals c i = .executed :=
  (step_adv H V w op c i).executed h0

theorem run_adv (w : World) (ops : List (Op σ)) (c i : Bytes) :
    Adv (w.st.approvals c i) ((run H V w ops).1.st.approvals c i) :=
  run_inv H V (I := fun w' => Adv (w.st.approvals c i) (w'.st.approvals c i))
    (fun w' op h => h.trans (step_adv H V w' op c i)) ops w (Adv.refl _)

theorem run_nil (w : World) : run H V w ([] : List (Op σ)) = (w, []) := rfl

end Cgp.Proofs.C02
