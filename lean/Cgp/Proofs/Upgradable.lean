/-
  Lemmas about the upgrade model.  What a wasm hash means is the code table's affair, so `migrate` and the Upgrader are
  characterised relative to the code installed.
-/
import Cgp.Upgradable
namespace Cgp.Upgradable
open Cgp.Xdr

section
variable {codes : Codes} {c c' : Contract} {auths : List Addr} {evs : List Event}

theorem upgrade_ok_iff {h : Bytes} : upgrade codes c auths h = .ok c' ↔
    c.owner ∈ auths ∧ ∃ code, codes h = some code ∧
      c' = { c with code := code, migrating := c.migrating || c.code.opensWindow } := by
  fun_cases upgrade codes c auths h <;> simp_all
  exact eq_comm

theorem migrate_ok_iff {d : List ScVal} : migrate c auths d = .ok (c', evs) ↔
    c.code.hasMigrate = true ∧ c.code.accepts d = true ∧ c.owner ∈ auths ∧
    if c.code.usesWindow = true then c.migrating = true ∧ c' = { c with migrating := false } ∧ evs = [evUpgraded c.code.version]
    else c' = { c with data := (c.code.store d).orElse (fun _ => c.data) } ∧ evs = [] := by
  simp only [migrate, guard_ok_iff, Bool.not_not_eq, Decidable.not_not]
  split <;> simp only [guard_ok_iff, Bool.not_not_eq, Except.ok.injEq, Prod.mk.injEq, @eq_comm _ c', @eq_comm _ evs]

theorem migrate_keeps {d : List ScVal} (h : migrate c auths d = .ok (c', evs)) :
    c.owner ∈ auths ∧ c'.owner = c.owner ∧ c'.code = c.code := by
  obtain ⟨-, -, ho, h⟩ := migrate_ok_iff.1 h
  split at h
  · obtain ⟨-, rfl, -⟩ := h; exact ⟨ho, rfl, rfl⟩
  · obtain ⟨rfl, -⟩ := h; exact ⟨ho, rfl, rfl⟩

theorem upgraderUpgrade_ok_iff {am : List Addr} {nv h : Bytes} {d : List ScVal} :
    upgraderUpgrade codes c auths am nv h d = .ok (c', evs) ↔
      c.code.version ≠ nv ∧ ∃ c1, upgrade codes c auths h = .ok c1 ∧ migrate c1 am d = .ok (c', evs) ∧
        c'.code.version = nv := by
  fun_cases upgraderUpgrade codes c auths am nv h d <;> simp_all
  -- left: the two outcomes of the version test, which the code makes on its `c2` and the goal states of `c'`
  all_goals rintro rfl -; assumption

theorem upgraderUpgrade_ok {am : List Addr} {nv h : Bytes} {d : List ScVal}
    (hok : upgraderUpgrade codes c auths am nv h d = .ok (c', evs)) :
    c.code.version ≠ nv ∧ c'.code.version = nv ∧ c.owner ∈ auths ∧ c.owner ∈ am ∧ codes h = some c'.code ∧
      c'.owner = c.owner := by
  obtain ⟨hv, c1, hu, hm, hv2⟩ := upgraderUpgrade_ok_iff.1 hok
  obtain ⟨hoa, code, hcode, rfl⟩ := upgrade_ok_iff.1 hu
  obtain ⟨hom, ho, hc⟩ := migrate_keeps hm
  exact ⟨hv, hv2, hoa, hom, hc ▸ hcode, ho⟩

theorem transferOwnership_ok_iff {new : Addr} : transferOwnership c auths new = .ok c' ↔
    c.owner ∈ auths ∧ c' = { c with owner := new } := by
  rw [transferOwnership, guard_ok_iff, Decidable.not_not, Except.ok.injEq]
  exact and_congr_right' eq_comm
end

/-- `migrate` and the Upgrader keep their equation: what they produce depends on the code installed -/
inductive Effect (codes : Codes) (c : Contract) : Op → Contract × Obs → Prop
  | refused (op : Op) (e : Err) : Effect codes c op (c, .err e)
  | upgrade {au h code} (ho : c.owner ∈ au) (hc : codes h = some code) :
      Effect codes c (.upgrade au h) ({ c with code := code, migrating := c.migrating || c.code.opensWindow }, .ok [])
  | migrate {au d c' evs} (hm : migrate c au d = .ok (c', evs)) : Effect codes c (.migrate au d) (c', .ok evs)
  | viaUpgrader {au am v h d c' evs} (hu : upgraderUpgrade codes c au am v h d = .ok (c', evs)) :
      Effect codes c (.viaUpgrader au am v h d) (c', .ok evs)
  | transferOwnership {au n} (ho : c.owner ∈ au) : Effect codes c (.transferOwnership au n) ({ c with owner := n }, .ok [])

theorem step_effect (codes : Codes) (c : Contract) (op : Op) : Effect codes c op (step codes c op) := by
  cases op with simp only [step]
  | upgrade au h =>
    cases hu : upgrade codes c au h with
    | error e => exact .refused _ e
    | ok r => obtain ⟨ho, code, hc, rfl⟩ := upgrade_ok_iff.1 hu; exact .upgrade ho hc
  | migrate au d =>
    cases hm : migrate c au d with
    | error e => exact .refused _ e
    | ok r => exact .migrate hm
  | viaUpgrader au am v h d =>
    cases hu : upgraderUpgrade codes c au am v h d with
    | error e => exact .refused _ e
    | ok r => exact .viaUpgrader hu
  | transferOwnership au n =>
    cases ht : transferOwnership c au n with
    | error e => exact .refused _ e
    | ok r => obtain ⟨ho, rfl⟩ := transferOwnership_ok_iff.1 ht; exact .transferOwnership ho

theorem step_err (codes : Codes) (c : Contract) (op : Op) (e : Err) (h : (step codes c op).2 = .err e) :
    (step codes c op).1 = c := by
  have he := step_effect codes c op
  generalize step codes c op = r at he h ⊢
  cases he with
  | refused => rfl
  | _ => cases h

theorem run_cons (codes : Codes) (c : Contract) (op : Op) (ops : List Op) :
    run codes c (op :: ops) =
      ((run codes (step codes c op).1 ops).1, (step codes c op).2 :: (run codes (step codes c op).1 ops).2) := rfl

end Cgp.Upgradable
