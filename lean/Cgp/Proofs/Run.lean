/-
  Histories of any transition system: `f : W → O → W` is one step and `r` the model's own `run`
  (projected to the final state), handed over with its two defining equations, which are `rfl` in every model.
-/
namespace Cgp.Run

section
variable {W O : Type} (f : W → O → W) (r : W → List O → W) (hr0 : ∀ w, r w [] = w)
  (hr1 : ∀ w o os, r w (o :: os) = r (f w o) os)
include hr0 hr1

theorem invariant (I : W → Prop) (hI : ∀ w o, I w → I (f w o)) : ∀ os w, I w → I (r w os)
  | [], w, h => by rw [hr0]; exact h
  | o :: os, w, h => by rw [hr1]; exact invariant I hI os (f w o) (hI w o h)

theorem telescope (I : W → Prop) (hI : ∀ w o, I w → I (f w o)) (C : O → Prop)
    (q : W → Int) (d : W → O → Int) (net : W → List O → Int) (hn0 : ∀ w, net w [] = 0)
    (hn1 : ∀ w o os, net w (o :: os) = d w o + net (f w o) os)
    (hstep : ∀ w o, I w → C o → q (f w o) = q w + d w o) :
    ∀ os w, I w → (∀ o ∈ os, C o) → q (r w os) = q w + net w os
  | [], w, _, _ => by rw [hr0, hn0, Int.add_zero]
  | o :: os, w, h, hc => by
    rw [hr1, hn1, telescope I hI C q d net hn0 hn1 hstep os (f w o) (hI w o h) fun o' ho => hc o' (List.mem_cons_of_mem _ ho),
      hstep w o h (hc o (List.mem_cons_self ..)), Int.add_assoc]

end

section
variable {W O B : Type} (f : W → O → W) (obs : W → O → B) (tr : W → List O → List (W × O × B))
  (ht0 : ∀ w, tr w [] = []) (ht1 : ∀ w o os, tr w (o :: os) = (w, o, obs w o) :: tr (f w o) os)
include ht0 ht1

omit ht0 in
/-- where a fact comes from.  `I` a standing invariant, `T` a condition on the operations, `F` the fact, `G` what a trace entry
    `(state before, operation, observation)` that can make `F` true looks like, `C` an escape (a hash collision). -/
theorem origin (r : W → List O → W) (hr0 : ∀ w, r w [] = w) (hr1 : ∀ w o os, r w (o :: os) = r (f w o) os)
    {I F : W → Prop} {T : O → Prop} {G : W × O × B → Prop} {C : Prop}
    (hI : ∀ w o, T o → I w → I (f w o)) (hF : ∀ w o, T o → I w → F (f w o) → F w ∨ G (w, o, obs w o) ∨ C)
    (os : List O) (w0 : W) (hw : I w0) (hT : ∀ o ∈ os, T o) (hfin : F (r w0 os)) :
    F w0 ∨ (∃ x ∈ tr w0 os, G x) ∨ C := by
  induction os generalizing w0 with
  | nil => exact .inl (hr0 w0 ▸ hfin)
  | cons o os ih =>
    have ho := hT o List.mem_cons_self
    rw [ht1]
    rcases ih _ (hI w0 o ho hw) (fun a ha => hT a (List.mem_cons_of_mem _ ha)) (hr1 .. ▸ hfin) with h | ⟨x, hx, hg⟩ | hc
    · exact (hF w0 o ho hw h).imp_right (.imp_left fun hg => ⟨_, List.mem_cons_self, hg⟩)
    · exact .inr (.inl ⟨x, List.mem_cons_of_mem _ hx, hg⟩)
    · exact .inr (.inr hc)

/-- as `origin`, for the state in which an entry `e` of the trace was made (`hfin` may use that `e`'s observation is the
    model's); the witness is EARLIER than `e` -/
theorem origin_at {I F : W → Prop} {T : O → Prop} {G : W × O × B → Prop} {C : Prop}
    (hI : ∀ w o, T o → I w → I (f w o)) (hF : ∀ w o, T o → I w → F (f w o) → F w ∨ G (w, o, obs w o) ∨ C)
    (os : List O) (w0 : W) (hw : I w0) (hT : ∀ o ∈ os, T o) (pre post : List (W × O × B)) (e : W × O × B)
    (h : tr w0 os = pre ++ e :: post) (hfin : obs e.1 e.2.1 = e.2.2 → F e.1) : F w0 ∨ (∃ x ∈ pre, G x) ∨ C := by
  induction os generalizing w0 pre with
  | nil => rw [ht0] at h; cases pre <;> cases h
  | cons o os ih =>
    rw [ht1] at h
    cases pre with
    | nil => cases h; exact .inl (hfin rfl)
    | cons x pre =>
      obtain ⟨rfl, h'⟩ := List.cons.inj h
      have ho := hT o List.mem_cons_self
      rcases ih _ (hI w0 o ho hw) (fun a ha => hT a (List.mem_cons_of_mem _ ha)) pre h' with h | ⟨x, hx, hg⟩ | hc
      · exact (hF w0 o ho hw h).imp_right (.imp_left fun hg => ⟨_, List.mem_cons_self, hg⟩)
      · exact .inr (.inl ⟨x, List.mem_cons_of_mem _ hx, hg⟩)
      · exact .inr (.inr hc)

end

/-- `count s l` is what the model's counter says of the history `l` run from `s`; it ticks only on entering `done`, which is
    never left -/
theorem count_le_one {σ α : Type} (next : σ → α → σ) (count : σ → List α → Nat) (h0 : ∀ s, count s [] = 0)
    (h1 : ∀ s a l, count s (a :: l) = count (next s a) l + count s [a]) (done : σ → Prop) (ok : α → Prop)
    (keep : ∀ s a, ok a → done s → done (next s a))
    (once : ∀ s a, count s [a] ≠ 0 → ¬ done s ∧ done (next s a) ∧ count s [a] = 1) (l : List α) (s : σ)
    (hok : ∀ a ∈ l, ok a) : count s l ≤ 1 ∧ (done s → count s l = 0) := by
  induction l generalizing s with
  | nil => exact ⟨h0 s ▸ Nat.zero_le _, fun _ => h0 s⟩
  | cons a l ih =>
    obtain ⟨ih1, ih2⟩ := ih (next s a) fun b hb => hok b (List.mem_cons_of_mem _ hb)
    rw [h1]
    by_cases ht : count s [a] = 0
    · rw [ht]
      exact ⟨ih1, fun hd => ih2 (keep s a (hok a List.mem_cons_self) hd)⟩
    · obtain ⟨hn, hd, h⟩ := once s a ht
      rw [h, ih2 hd]
      exact ⟨Nat.le_refl _, fun hd => absurd hd hn⟩

end Cgp.Run
