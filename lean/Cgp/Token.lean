/-
  Cgp.Token — operational model **M** of contracts/interchain-token/src/contract.rs.
  Balances are `Int` with the code's i128 traps made explicit; the allowance table mirrors the
  temporary-storage entries (amount, expiration ledger) and the code's own expiry tests.
-/
import Cgp.Xdr
namespace Cgp.Token
open Cgp Cgp.Xdr

def i128Max : Int := 2 ^ 127 - 1

inductive Err where
  | unauthorized | notMinter | invalidAmount | invalidExpirationLedger
  | insufficientAllowance | insufficientBalance
  | trapOverflow          -- i128 addition overflow in receive_balance
  | hostTtlLimit          -- extend_ttl beyond the host's maximum entry lifetime
  | migrationNotAllowed
deriving DecidableEq, Repr, Inhabited

structure Event where
  topics : List ScVal
  data : ScVal

structure Allowance where
  amount : Int
  expiration : Nat
deriving DecidableEq, Repr, Inhabited

structure State where
  owner : Addr
  minter : Addr → Bool
  bal : Addr → Int
  /-- `none` = no entry was ever written -/
  allow : Addr → Addr → Option Allowance
  migrating : Bool

def sym (s : String) : ScVal := .sym s.toUTF8.toList
def i128v (i : Int) : ScVal := .i128 (if i < 0 then (i + 2 ^ 128).toNat else i.toNat)

def evMint (minter to : Addr) (amount : Int) : Event := ⟨[sym "mint", .addr minter, .addr to], i128v amount⟩
def evTransfer (src dst : Addr) (amount : Int) : Event := ⟨[sym "transfer", .addr src, .addr dst], i128v amount⟩
def evBurn (src : Addr) (amount : Int) : Event := ⟨[sym "burn", .addr src], i128v amount⟩
def evApprove (src spender : Addr) (amount : Int) (exp : Nat) : Event :=
  ⟨[sym "approve", .addr src, .addr spender], .vec (.cons (i128v amount) (.cons (.u32 exp) .nil))⟩
def evSetAdmin (prev new : Addr) : Event := ⟨[sym "set_admin", .addr prev], .addr new⟩
def evOwnershipTransferred (prev new : Addr) : Event :=
  ⟨[sym "ownership_transferred", .addr prev, .addr new], .vec .nil⟩
def evMinterAdded (m : Addr) : Event := ⟨[sym "minter_added", .addr m], .void⟩
def evMinterRemoved (m : Addr) : Event := ⟨[sym "minter_removed", .addr m], .void⟩

/-- the ledger environment of one invocation -/
structure Ctx where
  auths : List Addr        -- addresses that authorised exactly this call
  seq : Nat                -- current ledger sequence number
  maxLive : Nat            -- host limit on `extend_ttl` (max entry TTL - 1)

/-- `read_allowance`: an entry whose expiration ledger is in the past reads as amount 0 -/
def readAllowance (st : State) (seq : Nat) (src spender : Addr) : Allowance :=
  match st.allow src spender with
  | none => ⟨0, 0⟩
  | some a => if a.expiration < seq then ⟨0, a.expiration⟩ else a

/-- `write_allowance` -/
def writeAllowance (st : State) (c : Ctx) (src spender : Addr) (amount : Int) (exp : Nat) : Except Err State :=
  if amount > 0 ∧ exp < c.seq then .error .invalidExpirationLedger
  else if amount > 0 ∧ exp - c.seq > c.maxLive then .error .hostTtlLimit
  else .ok { st with allow := fun f s => if f = src ∧ s = spender then some ⟨amount, exp⟩ else st.allow f s }

/-- `spend_allowance` -/
def spendAllowance (st : State) (c : Ctx) (src spender : Addr) (amount : Int) : Except Err State :=
  let a := readAllowance st c.seq src spender
  if a.amount < amount then .error .insufficientAllowance
  else if amount > 0 then writeAllowance st c src spender (a.amount - amount) a.expiration
  else .ok st

/-- `spend_balance` -/
def spendBalance (st : State) (who : Addr) (amount : Int) : Except Err State :=
  if st.bal who < amount then .error .insufficientBalance
  else .ok { st with bal := fun a => if a = who then st.bal who - amount else st.bal a }

/-- `receive_balance` (plain `+` on i128 with overflow checks on) -/
def receiveBalance (st : State) (who : Addr) (amount : Int) : Except Err State :=
  if st.bal who + amount > i128Max then .error .trapOverflow
  else .ok { st with bal := fun a => if a = who then st.bal who + amount else st.bal a }

def mintFrom (st : State) (c : Ctx) (minter to : Addr) (amount : Int) : Except Err (State × List Event) :=
  if minter ∉ c.auths then .error .unauthorized
  else if !st.minter minter then .error .notMinter
  else if amount < 0 then .error .invalidAmount
  else match receiveBalance st to amount with
    | .error e => .error e
    | .ok st' => .ok (st', [evMint minter to amount])

/-- `StellarAssetInterface::mint` = `mint_from(owner, …)` -/
def mint (st : State) (c : Ctx) (to : Addr) (amount : Int) : Except Err (State × List Event) :=
  mintFrom st c st.owner to amount

def addMinter (st : State) (c : Ctx) (m : Addr) : Except Err (State × List Event) :=
  if st.owner ∉ c.auths then .error .unauthorized
  else .ok ({ st with minter := fun a => if a = m then true else st.minter a }, [evMinterAdded m])

def removeMinter (st : State) (c : Ctx) (m : Addr) : Except Err (State × List Event) :=
  if st.owner ∉ c.auths then .error .unauthorized
  else .ok ({ st with minter := fun a => if a = m then false else st.minter a }, [evMinterRemoved m])

def approve (st : State) (c : Ctx) (src spender : Addr) (amount : Int) (exp : Nat) : Except Err (State × List Event) :=
  if src ∉ c.auths then .error .unauthorized
  else if amount < 0 then .error .invalidAmount
  else match writeAllowance st c src spender amount exp with
    | .error e => .error e
    | .ok st' => .ok (st', [evApprove src spender amount exp])

def transfer (st : State) (c : Ctx) (src dst : Addr) (amount : Int) : Except Err (State × List Event) :=
  if src ∉ c.auths then .error .unauthorized
  else if amount < 0 then .error .invalidAmount
  else match spendBalance st src amount with
    | .error e => .error e
    | .ok st1 => match receiveBalance st1 dst amount with
      | .error e => .error e
      | .ok st2 => .ok (st2, [evTransfer src dst amount])

def transferFrom (st : State) (c : Ctx) (spender src dst : Addr) (amount : Int) : Except Err (State × List Event) :=
  if spender ∉ c.auths then .error .unauthorized
  else if amount < 0 then .error .invalidAmount
  else match spendAllowance st c src spender amount with
    | .error e => .error e
    | .ok st0 => match spendBalance st0 src amount with
      | .error e => .error e
      | .ok st1 => match receiveBalance st1 dst amount with
        | .error e => .error e
        | .ok st2 => .ok (st2, [evTransfer src dst amount])

def burn (st : State) (c : Ctx) (src : Addr) (amount : Int) : Except Err (State × List Event) :=
  if src ∉ c.auths then .error .unauthorized
  else if amount < 0 then .error .invalidAmount
  else match spendBalance st src amount with
    | .error e => .error e
    | .ok st1 => .ok (st1, [evBurn src amount])

def burnFrom (st : State) (c : Ctx) (spender src : Addr) (amount : Int) : Except Err (State × List Event) :=
  if spender ∉ c.auths then .error .unauthorized
  else if amount < 0 then .error .invalidAmount
  else match spendAllowance st c src spender amount with
    | .error e => .error e
    | .ok st0 => match spendBalance st0 src amount with
      | .error e => .error e
      | .ok st1 => .ok (st1, [evBurn src amount])

/-- `transfer_ownership` / `set_admin`: ownable event, then the token-standard `set_admin (previous, new)` -/
def transferOwnership (st : State) (c : Ctx) (new : Addr) : Except Err (State × List Event) :=
  if st.owner ∉ c.auths then .error .unauthorized
  else .ok ({ st with owner := new }, [evOwnershipTransferred st.owner new, evSetAdmin st.owner new])

/-- constructor: the owner and the optional minter become minters -/
def construct (owner : Addr) (minter : Option Addr) : State :=
  { owner, minter := fun a => decide (a = owner ∨ minter = some a), bal := fun _ => 0, allow := fun _ _ => none, migrating := false }

/-! ### transition system -/

inductive Op where
  | mintFrom (minter to : Addr) (amount : Int)
  | mint (to : Addr) (amount : Int)
  | addMinter (m : Addr)
  | removeMinter (m : Addr)
  | approve (src spender : Addr) (amount : Int) (exp : Nat)
  | transfer (src dst : Addr) (amount : Int)
  | transferFrom (spender src dst : Addr) (amount : Int)
  | burn (src : Addr) (amount : Int)
  | burnFrom (spender src : Addr) (amount : Int)
  | transferOwnership (new : Addr)
  /-- the owner upgrades the token to its own code and runs the (empty) migration: the window opens and closes again -/
  | upgradeMigrate

def apply (st : State) (c : Ctx) : Op → Except Err (State × List Event)
  | .mintFrom m t a => mintFrom st c m t a
  | .mint t a => mint st c t a
  | .addMinter m => addMinter st c m
  | .removeMinter m => removeMinter st c m
  | .approve s p a e => approve st c s p a e
  | .transfer s d a => transfer st c s d a
  | .transferFrom p s d a => transferFrom st c p s d a
  | .burn s a => burn st c s a
  | .burnFrom p s a => burnFrom st c p s a
  | .transferOwnership n => transferOwnership st c n
  | .upgradeMigrate => if st.owner ∉ c.auths then .error .unauthorized else .ok (st, [])

/-- one invocation with the host's rollback -/
def step (st : State) (c : Ctx) (op : Op) : State × Except Err (List Event) :=
  match apply st c op with
  | .ok (st', evs) => (st', .ok evs)
  | .error e => (st, .error e)

/-- a history: each operation comes with its own ledger context (authorisations, ledger sequence) -/
def run (st : State) : List (Ctx × Op) → State
  | [] => st
  | (c, op) :: rest => run (step st c op).1 rest

end Cgp.Token
