/-
  Cgp.GasService — operational model **M** of contracts/axelar-gas-service/src/contract.rs over the
  SAC environment model.
-/
import Cgp.Sac
namespace Cgp.GasService
open Cgp Cgp.Xdr Cgp.Sac

inductive Err where
  | unauthorized | invalidAmount | insufficientBalance | tokenCallFailed
deriving DecidableEq, Repr, Inhabited

structure Event where
  topics : List ScVal
  data : ScVal

structure State where
  self : Addr            -- the service's own address
  owner : Addr
  collector : Addr
  bank : Bank

def sym (s : String) : ScVal := .sym s.toUTF8.toList
def i128v (i : Int) : ScVal := .i128 (if i < 0 then (i + 2 ^ 128).toNat else i.toNat)

/-- `Token { address, amount }` as a contracttype struct -/
def tokenSc (token : Addr) (amount : Int) : ScVal :=
  .map (.cons (sym "address") (.addr token) (.cons (sym "amount") (i128v amount) .nil))

section
variable (H : Bytes → Bytes)

def evGasPaid (sender : Addr) (chain dest payload : Bytes) (spender token : Addr) (amount : Int) (metadata : Bytes) : Event :=
  ⟨[sym "gas_paid", .addr sender, .str chain, .str dest, .bytes (H payload), .addr spender, tokenSc token amount],
   .vec (.cons (.bytes metadata) .nil)⟩
def evGasAdded (sender : Addr) (msgId : Bytes) (spender token : Addr) (amount : Int) : Event :=
  ⟨[sym "gas_added", .addr sender, .str msgId, .addr spender, tokenSc token amount], .void⟩
def evRefunded (msgId : Bytes) (receiver token : Addr) (amount : Int) : Event :=
  ⟨[sym "gas_refunded", .str msgId, .addr receiver, tokenSc token amount], .void⟩
/-- NOTE: the code passes the COLLECTOR where the event layout says "receiver" (C14 constrains token and amount only) -/
def evCollected (collector token : Addr) (amount : Int) : Event :=
  ⟨[sym "gas_collected", .addr collector, tokenSc token amount], .void⟩

def payGas (st : State) (auths : List Addr) (sender : Addr) (chain dest payload : Bytes) (spender token : Addr)
    (amount : Int) (metadata : Bytes) : Except Err (State × List Event) :=
  if spender ∉ auths then .error .unauthorized
  else if amount ≤ 0 then .error .invalidAmount
  else match st.bank.transfer token spender st.self amount true with
    | none => .error .tokenCallFailed
    | some b => .ok ({ st with bank := b }, [evGasPaid H sender chain dest payload spender token amount metadata])

def addGas (st : State) (auths : List Addr) (sender : Addr) (msgId : Bytes) (spender token : Addr) (amount : Int) :
    Except Err (State × List Event) :=
  if spender ∉ auths then .error .unauthorized
  else if amount ≤ 0 then .error .invalidAmount
  else match st.bank.transfer token spender st.self amount true with
    | none => .error .tokenCallFailed
    | some b => .ok ({ st with bank := b }, [evGasAdded sender msgId spender token amount])

def collectFees (st : State) (auths : List Addr) (receiver token : Addr) (amount : Int) : Except Err (State × List Event) :=
  if st.collector ∉ auths then .error .unauthorized
  else if amount ≤ 0 then .error .invalidAmount
  else if !st.bank.isToken token then .error .tokenCallFailed
  else if st.bank.bal token st.self < amount then .error .insufficientBalance
  else match st.bank.transfer token st.self receiver amount true with
    | none => .error .tokenCallFailed
    | some b => .ok ({ st with bank := b }, [evCollected st.collector token amount])

def refund (st : State) (auths : List Addr) (msgId : Bytes) (receiver token : Addr) (amount : Int) :
    Except Err (State × List Event) :=
  if st.collector ∉ auths then .error .unauthorized
  else match st.bank.transfer token st.self receiver amount true with
    | none => .error .tokenCallFailed
    | some b => .ok ({ st with bank := b }, [evRefunded msgId receiver token amount])

end

def transferOwnership (st : State) (auths : List Addr) (new : Addr) : Except Err (State × List Event) :=
  if st.owner ∉ auths then .error .unauthorized
  else .ok ({ st with owner := new }, [⟨[sym "ownership_transferred", .addr st.owner, .addr new], .vec .nil⟩])

/-! ### transition system: API operations plus the environment moves that do not involve the service -/

inductive Op where
  | payGas (auths : List Addr) (sender : Addr) (chain dest payload : Bytes) (spender token : Addr) (amount : Int) (metadata : Bytes)
  | addGas (auths : List Addr) (sender : Addr) (msgId : Bytes) (spender token : Addr) (amount : Int)
  | collectFees (auths : List Addr) (receiver token : Addr) (amount : Int)
  | refund (auths : List Addr) (msgId : Bytes) (receiver token : Addr) (amount : Int)
  | transferOwnership (auths : List Addr) (new : Addr)
  /-- a transfer between users (neither side is the service) -/
  | userTransfer (token src dst : Addr) (amount : Int) (authorised : Bool)
  | adminMint (token dst : Addr) (amount : Int)
  /-- the owner upgrades the contract to its own code and runs the (empty) migration -/
  | upgradeMigrate (auths : List Addr)

def apply (H : Bytes → Bytes) (st : State) : Op → Except Err (State × List Event)
  | .payGas au s c d p sp t a m => payGas H st au s c d p sp t a m
  | .addGas au s i sp t a => addGas st au s i sp t a
  | .collectFees au r t a => collectFees st au r t a
  | .refund au i r t a => refund st au i r t a
  | .transferOwnership au n => transferOwnership st au n
  | .userTransfer t s d a au =>
    if s = st.self ∨ d = st.self then .error .unauthorized   -- excluded by definition of the op
    else match st.bank.transfer t s d a au with
      | none => .error .tokenCallFailed
      | some b => .ok ({ st with bank := b }, [])
  | .adminMint t d a =>
    if d = st.self then .error .unauthorized
    else match st.bank.mint t d a with
      | none => .error .tokenCallFailed
      | some b => .ok ({ st with bank := b }, [])
  | .upgradeMigrate au => if st.owner ∈ au then .ok (st, []) else .error .unauthorized

def step (H : Bytes → Bytes) (st : State) (op : Op) : State × Except Err (List Event) :=
  match apply H st op with
  | .ok (st', evs) => (st', .ok evs)
  | .error e => (st, .error e)

def run (H : Bytes → Bytes) (st : State) : List Op → State
  | [] => st
  | op :: rest => run H (step H st op).1 rest

end Cgp.GasService
