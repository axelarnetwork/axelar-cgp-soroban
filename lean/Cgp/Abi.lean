/-
  Cgp.Abi — model **M** of contracts/interchain-token-service/src/abi.rs: the ITS message structs encoded with the
  Solidity ABI "params" (head/tail) encoding, and decoding the way alloy-sol-types does with `validate = true`:
  parse leniently by following offsets, type-check, then RE-ENCODE AND COMPARE WITH THE INPUT.
-/
import Cgp.Basic
namespace Cgp.Abi

/-! ### generic head/tail codec over static words and dynamic byte strings -/

def word (n : Nat) : Bytes := beN 32 n
theorem word_length (n : Nat) : (word n).length = 32 := beN_length 32 n

def padTo32 (n : Nat) : Nat := (32 - n % 32) % 32

inductive Field where
  | w (x : Bytes)      -- static 32-byte word
  | d (b : Bytes)      -- dynamic `bytes` / `string`
deriving DecidableEq, Repr

def tailOf (b : Bytes) : Bytes := word b.length ++ b ++ List.replicate (padTo32 b.length) 0

/-- heads and tails, given the absolute offset where the next tail goes -/
def encAux : List Field → Nat → Bytes × Bytes
  | [], _ => ([], [])
  | .w x :: fs, off => let (h, t) := encAux fs off; (x ++ h, t)
  | .d b :: fs, off => let (h, t) := encAux fs (off + (tailOf b).length); (word off ++ h, tailOf b ++ t)

def encodeSeq (fs : List Field) : Bytes :=
  let (h, t) := encAux fs (32 * fs.length); h ++ t

/-- lenient parser: `kinds` says which positions are dynamic; `heads` = remaining head bytes; offsets are followed
    into the `whole` buffer -/
def parseAux : List Bool → Bytes → Bytes → Option (List Field)
  | [], _, _ => some []
  | false :: ks, heads, whole =>
    if heads.length < 32 then none else
    match parseAux ks (heads.drop 32) whole with
    | none => none
    | some fs => some (.w (heads.take 32) :: fs)
  | true :: ks, heads, whole =>
    if heads.length < 32 then none else
    let off := ofBE (heads.take 32)
    let at1 := whole.drop off
    if at1.length < 32 then none else
    let len := ofBE (at1.take 32)
    let body := at1.drop 32
    if body.length < len then none else
    match parseAux ks (heads.drop 32) whole with
    | none => none
    | some fs => some (.d (body.take len) :: fs)

def kindOf : Field → Bool | .w _ => false | .d _ => true

def Field.WF : Field → Prop
  | .w x => x.length = 32
  | .d b => b.length < 256 ^ 32

/-- alloy's `validate = true` sequence decoding: lenient parse, then the re-encoding must reproduce the input -/
def decodeSeq (kinds : List Bool) (b : Bytes) : Option (List Field) :=
  match parseAux kinds b b with
  | none => none
  | some fs => if encodeSeq fs = b then some fs else none

/-! ### UTF-8 (what `String::from_utf8` / alloy's string type check accept) -/

def validUtf8 : Bytes → Bool
  | [] => true
  | b0 :: r =>
    if b0 < 0x80 then validUtf8 r
    else if 0xC2 ≤ b0 ∧ b0 ≤ 0xDF then
      match r with
      | b1 :: r' => if 0x80 ≤ b1 ∧ b1 ≤ 0xBF then validUtf8 r' else false
      | _ => false
    else if 0xE0 ≤ b0 ∧ b0 ≤ 0xEF then
      match r with
      | b1 :: b2 :: r' =>
        let lo : UInt8 := if b0 = 0xE0 then 0xA0 else 0x80
        let hi : UInt8 := if b0 = 0xED then 0x9F else 0xBF
        if lo ≤ b1 ∧ b1 ≤ hi ∧ 0x80 ≤ b2 ∧ b2 ≤ 0xBF then validUtf8 r' else false
      | _ => false
    else if 0xF0 ≤ b0 ∧ b0 ≤ 0xF4 then
      match r with
      | b1 :: b2 :: b3 :: r' =>
        let lo : UInt8 := if b0 = 0xF0 then 0x90 else 0x80
        let hi : UInt8 := if b0 = 0xF4 then 0x8F else 0xBF
        if lo ≤ b1 ∧ b1 ≤ hi ∧ 0x80 ≤ b2 ∧ b2 ≤ 0xBF ∧ 0x80 ≤ b3 ∧ b3 ≤ 0xBF then validUtf8 r' else false
      | _ => false
    else false

/-! ### the ITS messages -/

structure Transfer where
  tokenId : Bytes
  source : Bytes
  dest : Bytes
  amount : Int
  data : Option Bytes
deriving DecidableEq, Repr

structure Deploy where
  tokenId : Bytes
  name : Bytes
  symbol : Bytes
  decimals : Nat
  minter : Option Bytes
deriving DecidableEq, Repr

inductive Msg where
  | transfer (t : Transfer)
  | deploy (d : Deploy)
deriving DecidableEq, Repr

inductive HubMsg where
  | sendToHub (chain : Bytes) (m : Msg)
  | receiveFromHub (chain : Bytes) (m : Msg)
deriving DecidableEq, Repr

inductive Err where
  | insufficientMessageLength | invalidMessageType | abiDecodeFailed | invalidAmount | invalidUtf8
  | panicNegativeAmount        -- `amount.try_into().expect(..)` in abi_encode
deriving DecidableEq, Repr

/-- `into_vec`: an absent optional byte field is encoded as empty bytes -/
def optBytes (o : Option Bytes) : Bytes := o.getD []
/-- `from_vec`: empty bytes read back as absent -/
def ofBytesOpt (b : Bytes) : Option Bytes := if b.isEmpty then none else some b

def transferFields (t : Transfer) : List Field :=
  [.w (word 0), .w t.tokenId, .d t.source, .d t.dest, .w (word t.amount.toNat), .d (optBytes t.data)]

def deployFields (d : Deploy) : List Field :=
  [.w (word 1), .w d.tokenId, .d d.name, .d d.symbol, .w (word d.decimals), .d (optBytes d.minter)]

def transferKinds : List Bool := [false, false, true, true, false, true]
def deployKinds : List Bool := [false, false, true, true, false, true]
def hubKinds : List Bool := [false, true, true]

/-- `Message::abi_encode` -/
def encodeMsg : Msg → Except Err Bytes
  | .transfer t => if t.amount < 0 then .error .panicNegativeAmount else .ok (encodeSeq (transferFields t))
  | .deploy d =>
    if !validUtf8 d.name ∨ !validUtf8 d.symbol then .error .invalidUtf8
    else .ok (encodeSeq (deployFields d))

/-- `HubMessage::abi_encode` -/
def encodeHub : HubMsg → Except Err Bytes
  | .sendToHub chain m =>
    if !validUtf8 chain then .error .invalidUtf8
    else match encodeMsg m with
      | .error e => .error e
      | .ok inner => .ok (encodeSeq [.w (word 3), .d chain, .d inner])
  | .receiveFromHub chain m =>
    if !validUtf8 chain then .error .invalidUtf8
    else match encodeMsg m with
      | .error e => .error e
      | .ok inner => .ok (encodeSeq [.w (word 4), .d chain, .d inner])

/-- `get_message_type`: at least one word, and that word is a valid enum value (0..4, upper bytes zero) -/
def messageType (b : Bytes) : Except Err Nat :=
  if b.length < 32 then .error .insufficientMessageLength
  else if ofBE (b.take 32) < 5 then .ok (ofBE (b.take 32)) else .error .invalidMessageType

/-- `to_i128`: the upper 128 bits are zero and the sign bit is clear -/
def toI128 (w : Bytes) : Except Err Int :=
  if ofBE w < 2 ^ 127 then .ok (ofBE w) else .error .invalidAmount

/-- `Message::abi_decode` -/
def decodeMsg (b : Bytes) : Except Err Msg :=
  match messageType b with
  | .error e => .error e
  | .ok ty =>
    if ty = 0 then
      match decodeSeq transferKinds b with
      | some [.w _, .w tid, .d src, .d dst, .w amt, .d data] =>
        match toI128 amt with
        | .error e => .error e
        | .ok a => .ok (.transfer ⟨tid, src, dst, a, ofBytesOpt data⟩)
      | _ => .error .abiDecodeFailed
    else if ty = 1 then
      match decodeSeq deployKinds b with
      | some [.w _, .w tid, .d name, .d symbol, .w dec, .d minter] =>
        -- alloy type check: `string` fields must be UTF-8, `uint8` must fit
        if !validUtf8 name ∨ !validUtf8 symbol ∨ ofBE dec ≥ 256 then .error .abiDecodeFailed
        else .ok (.deploy ⟨tid, name, symbol, ofBE dec, ofBytesOpt minter⟩)
      | _ => .error .abiDecodeFailed
    else .error .invalidMessageType

/-- `HubMessage::abi_decode` -/
def decodeHub (b : Bytes) : Except Err HubMsg :=
  match messageType b with
  | .error e => .error e
  | .ok ty =>
    if ty = 3 ∨ ty = 4 then
      match decodeSeq hubKinds b with
      | some [.w _, .d chain, .d inner] =>
        if !validUtf8 chain then .error .abiDecodeFailed
        else match decodeMsg inner with
          | .error e => .error e
          | .ok m => .ok (if ty = 3 then .sendToHub chain m else .receiveFromHub chain m)
      | _ => .error .abiDecodeFailed
    else .error .invalidMessageType

/-- a dynamic length word that makes alloy 0.8.14's decoder overflow `usize` arithmetic (native: 64 bit) instead of
    returning an error: upper 24 bytes zero and `next_multiple_of_32(len) + 32 ≥ 2^64`.  Only used by the driver to
    recognise the known finding; the model's verdict is "rejected" either way. -/
def lenOverflows64 (len : Nat) : Bool := len < 2 ^ 64 && len + 63 ≥ 2 ^ 64

/-! ### declarative side: well-formed and normalised messages -/

def Msg.wf : Msg → Prop
  | .transfer t => t.tokenId.length = 32 ∧ 0 ≤ t.amount ∧ t.amount < 2 ^ 127
  | .deploy d => d.tokenId.length = 32 ∧ validUtf8 d.name = true ∧ validUtf8 d.symbol = true ∧ d.decimals < 256

/-- an empty optional byte field reads back as absent -/
def normOpt : Option Bytes → Option Bytes
  | some [] => none
  | o => o

def Msg.normalize : Msg → Msg
  | .transfer t => .transfer { t with data := normOpt t.data }
  | .deploy d => .deploy { d with minter := normOpt d.minter }

def HubMsg.normalize : HubMsg → HubMsg
  | .sendToHub c m => .sendToHub c m.normalize
  | .receiveFromHub c m => .receiveFromHub c m.normalize

def HubMsg.wf : HubMsg → Prop
  | .sendToHub c m => validUtf8 c = true ∧ m.wf
  | .receiveFromHub c m => validUtf8 c = true ∧ m.wf

end Cgp.Abi
