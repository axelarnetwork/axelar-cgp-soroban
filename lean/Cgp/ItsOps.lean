/-
  Cgp.ItsOps — the interchain token service as a transition system, for "every history" statements.
  Besides the service's own entry points a history may contain the environment's moves: anything happening at the
  gateway (modelled as an arbitrary change of the gateway state), user-to-user token transfers that do not involve
  the service, and a designated minter's own mints.
-/
import Cgp.Its
namespace Cgp.Its
open Cgp Cgp.Xdr

inductive Op where
  | setTrusted (auths : List Addr) (chain : Bytes)
  | removeTrusted (auths : List Addr) (chain : Bytes)
  | transferOwnership (auths : List Addr) (new : Addr)
  | deploy (auths : List Addr) (caller : Addr) (salt name symbol : Bytes) (decimals : Nat) (supply : Int) (minter : Option Addr)
  | registerCanonical (token : Addr)
  | deployRemote (auths : List Addr) (caller : Addr) (salt dest : Bytes) (gasToken : Addr) (gasAmount : Int)
  | deployRemoteCanonical (auths : List Addr) (token : Addr) (dest : Bytes) (spender gasToken : Addr) (gasAmount : Int)
  | transfer (auths : List Addr) (caller : Addr) (tid dest destAddr : Bytes) (amount : Int) (data : Option Bytes) (gasToken : Addr) (gasAmount : Int)
  | execute (chain msgId srcAddr payload : Bytes)
  /-- anything that happens at the gateway (approvals, rotations, other applications consuming their messages) -/
  | gateway (f : Gateway.State → Gateway.State)
  /-- a transfer between two parties, neither of which is the service -/
  | userTransfer (token src dst : Addr) (amount : Int) (authorised : Bool)
  /-- a minter other than the service mints on a service-deployed token -/
  | minterMint (token minter dst : Addr) (amount : Int) (authorised : Bool)
  /-- the owner upgrades the service to its own code and runs the (empty) migration -/
  | upgradeMigrate (auths : List Addr)

inductive Obs where
  | ok (evs : List Event)
  | okId (tid : Bytes) (evs : List Event)
  | err (e : Err)

section
variable (H : Bytes → Bytes) (S : Bytes → Bytes) (k : Consts)

def wrapEv (st : State) (r : Except Err (State × List Event)) : State × Obs :=
  match r with
  | .ok (st', evs) => (st', .ok evs)
  | .error e => (st, .err e)

def wrapId (st : State) (r : Except Err (State × Bytes × List Event)) : State × Obs :=
  match r with
  | .ok (st', tid, evs) => (st', .okId tid evs)
  | .error e => (st, .err e)

/-- one invocation, with the host's rollback of failed invocations -/
def step (st : State) : Op → State × Obs
  | .setTrusted au c => wrapEv st (setTrustedChain st au c)
  | .removeTrusted au c => wrapEv st (removeTrustedChain st au c)
  | .transferOwnership au n => wrapEv st (transferOwnership st au n)
  | .deploy au ca sa n sy d su m => wrapId st (deployInterchainToken H S k st au ca sa n sy d su m)
  | .registerCanonical t => wrapId st (registerCanonicalToken H k st t)
  | .deployRemote au ca sa de gt ga => wrapId st (deployRemoteInterchainToken H k st au ca sa de gt ga)
  | .deployRemoteCanonical au t de sp gt ga => wrapId st (deployRemoteCanonicalToken H k st au t de sp gt ga)
  | .transfer au ca ti de da am dt gt ga => wrapEv st (interchainTransfer H k st au ca ti de da am dt gt ga)
  | .execute c i sa p => wrapEv st (execute H S k st c i sa p)
  | .gateway f => ({ st with gw := f st.gw }, .ok [])
  | .userTransfer t s d a au =>
    if s = st.self ∨ d = st.self then (st, .err .unauthorized)
    else match tokTransfer st t s d a au with
      | .ok st' => (st', .ok [])
      | .error e => (st, .err e)
  | .minterMint t m d a au =>
    match st.tokens t with
    | some tk =>
      if tk.kind ≠ .interchain ∨ m = st.self ∨ !au ∨ !tk.minter m ∨ a < 0 ∨ tk.bal d + a > i128Max then (st, .err .tokenCallFailed)
      else (setTok st t { tk with bal := fun x => if x = d then tk.bal d + a else tk.bal x }, .ok [])
    | none => (st, .err .tokenCallFailed)
  | .upgradeMigrate au => if st.owner ∈ au then (st, .ok []) else (st, .err .unauthorized)

def run (st : State) : List Op → State × List Obs
  | [] => (st, [])
  | op :: ops =>
    let (st', o) := step H S k st op
    let (st'', os) := run st' ops
    (st'', o :: os)

end

/-- balance of `holder` in `token` (0 if there is no such token) -/
def balOf (st : State) (token holder : Addr) : Int :=
  match st.tokens token with
  | some t => t.bal holder
  | none => 0

def Collision (F : Bytes → Bytes) : Prop := ∃ x y, x ≠ y ∧ F x = F y

end Cgp.Its
