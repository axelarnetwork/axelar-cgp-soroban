/-
  Cgp.GatewayOps — the gateway as a transition system over operations, so that properties
  "for every history" are statements about `run` over arbitrary operation lists.
-/
import Cgp.Gateway
namespace Cgp.Gateway
open Cgp Cgp.Xdr

/-- the contract state together with the ledger clock -/
structure World where
  st : State
  now : Nat

inductive Op (σ : Type) where
  | approve (ms : List Message) (proof : Proof σ)
  | rotate (auths : List Addr) (ws : WSigners) (proof : Proof σ) (bypass : Bool)
  | validateMessage (auths : List Addr) (caller : Addr) (chain id src ph : Bytes)
  | callContract (auths : List Addr) (caller : Addr) (chain dest payload : Bytes)
  | transferOwnership (auths : List Addr) (new : Addr)
  | transferOperatorship (auths : List Addr) (new : Addr)
  | setTime (now : Nat)
  | upgrade (auths : List Addr)
  | migrate (auths : List Addr)

/-- what the caller / an observer sees of one operation -/
inductive Obs where
  | ok (evs : List Event)
  | okBool (b : Bool) (evs : List Event)
  | err (e : Err)

section
variable (H : Bytes → Bytes) {σ : Type} (V : Bytes → Bytes → σ → Bool)

/-- one top-level invocation, including the host's rollback of failed invocations -/
def step (w : World) : Op σ → World × Obs
  | .approve ms proof =>
    match approveMessages H V w.st ms proof with
    | .ok (st', evs) => ({ w with st := st' }, .ok evs)
    | .error e => (w, .err e)
  | .rotate auths ws proof bypass =>
    match rotateSigners H V w.st auths ws proof bypass w.now with
    | .ok (st', evs) => ({ w with st := st' }, .ok evs)
    | .error e => (w, .err e)
  | .validateMessage auths caller chain id src ph =>
    match validateMessage H w.st auths caller chain id src ph with
    | .ok (st', b, evs) => ({ w with st := st' }, .okBool b evs)
    | .error e => (w, .err e)
  | .callContract auths caller chain dest payload =>
    match callContract H w.st auths caller chain dest payload with
    | .ok (st', evs) => ({ w with st := st' }, .ok evs)
    | .error e => (w, .err e)
  | .transferOwnership auths new =>
    match transferOwnership w.st auths new with
    | .ok (st', evs) => ({ w with st := st' }, .ok evs)
    | .error e => (w, .err e)
  | .transferOperatorship auths new =>
    match transferOperatorship w.st auths new with
    | .ok (st', evs) => ({ w with st := st' }, .ok evs)
    | .error e => (w, .err e)
  | .setTime now => ({ w with now := now }, .ok [])
  | .upgrade auths =>
    if w.st.owner ∈ auths then ({ w with st := { w.st with migrating := true } }, .ok [])
    else (w, .err .unauthorized)
  | .migrate auths =>
    if w.st.owner ∉ auths then (w, .err .unauthorized)
    else if w.st.migrating then ({ w with st := { w.st with migrating := false } }, .ok [])
    else (w, .err .migrationNotAllowed)

/-- a history: the final world and the observations, in order -/
def run (w : World) : List (Op σ) → World × List Obs
  | [] => (w, [])
  | op :: ops =>
    let (w', o) := step H V w op
    let (w'', os) := run w' ops
    (w'', o :: os)

/-- a history recorded as (world before the call, the call, what was observed) -/
def trace (w : World) : List (Op σ) → List (World × Op σ × Obs)
  | [] => []
  | op :: ops => (w, op, (step H V w op).2) :: trace (step H V w op).1 ops

/-- the world right after a successful construction at time `now` -/
def constructed (owner operator : Addr) (domain : Bytes) (minDelay retention : Nat) (sets : List WSigners) (now : Nat) :
    Option World :=
  match construct H owner operator domain minDelay retention sets now with
  | .ok (st, _) => some { st, now }
  | .error _ => none

/-- reachable worlds: constructed, then any history -/
def Reachable (w : World) : Prop :=
  ∃ (owner operator : Addr) (domain : Bytes) (minDelay retention : Nat) (sets : List WSigners) (now : Nat)
    (w0 : World) (ops : List (Op σ)),
    constructed H owner operator domain minDelay retention sets now = some w0 ∧ (run H V w0 ops).1 = w

end

/-- `Collision H`: two different inputs with the same hash, exhibited explicitly -/
def Collision (H : Bytes → Bytes) : Prop := ∃ x y, x ≠ y ∧ H x = H y

end Cgp.Gateway
