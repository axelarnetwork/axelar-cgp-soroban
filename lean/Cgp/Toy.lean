/-
  Cgp.Toy — a toy hash, a toy signature check and small concrete values, used ONLY by the non-vacuity theorems at the end of
  the property files: with them the models can be RUN inside the kernel (`decide +kernel`), which shows that the hypotheses
  of the history-level theorems are met by concrete, non-trivial histories (a theorem whose hypotheses nothing satisfies
  would check and mean nothing).
-/
import Cgp.Proofs.Gateway
namespace Cgp.Toy
open Cgp.Xdr Cgp.Gateway

/-- 32 bytes: length byte, byte sum, zeros — certainly not collision-free, which is irrelevant for running the model -/
def H0 : Bytes → Bytes := fun b => [UInt8.ofNat b.length, b.foldl (· + ·) 0] ++ List.replicate 30 0
/-- the same for contract-address derivation -/
def S0 : Bytes → Bytes := H0
/-- every attached signature verifies -/
def V0 : Bytes → Bytes → Unit → Bool := fun _ _ _ => true
def key1 : Bytes := List.replicate 32 1
def ws0 : WSigners := ⟨[⟨key1, 1⟩], 1, List.replicate 32 0⟩
def pf0 : Proof Unit := ⟨[⟨⟨key1, 1⟩, some ()⟩], 1, List.replicate 32 0⟩
def owner0 : Addr := ⟨true, List.replicate 32 7⟩

/-! further signer sets and proofs by them (every attached signature passes `V0`) -/
def key2 : Bytes := List.replicate 32 2
def operator0 : Addr := ⟨false, List.replicate 32 8⟩
def wsB : WSigners := ⟨[⟨key1, 1⟩, ⟨key2, 2⟩], 2, List.replicate 32 0⟩
def wsC : WSigners := ⟨[⟨key2, 3⟩], 3, List.replicate 32 0⟩
def wsD : WSigners := ⟨[⟨key1, 4⟩, ⟨key2, 4⟩], 5, List.replicate 32 0⟩
def wsE : WSigners := ⟨[⟨key1, 6⟩], 6, List.replicate 32 0⟩
/-- threshold 0: not well-formed -/
def wsBad : WSigners := ⟨[⟨key1, 4⟩], 0, List.replicate 32 0⟩
/-- a proof by `wsB` (its second signer alone reaches the threshold), by `wsC`, by `wsD` -/
def pfB : Proof Unit := ⟨[⟨⟨key1, 1⟩, none⟩, ⟨⟨key2, 2⟩, some ()⟩], 2, List.replicate 32 0⟩
def pfC : Proof Unit := ⟨[⟨⟨key2, 3⟩, some ()⟩], 3, List.replicate 32 0⟩
def pfD : Proof Unit := ⟨[⟨⟨key1, 4⟩, some ()⟩, ⟨⟨key2, 4⟩, some ()⟩], 5, List.replicate 32 0⟩

def gwOk : Obs → Bool | .err _ => false | _ => true
def gwErr : Obs → Option Err | .err e => some e | _ => none
def gwRet : Obs → Option Bool | .okBool b _ => some b | _ => none
def gwEvents : Obs → Nat | .ok evs => evs.length | .okBool _ evs => evs.length | .err _ => 0

/-! Whether a call succeeded is decided by running it: `Except` values have no decidable equality, their `isOk` / `toOption`
    projections do.  With these instances a whole non-vacuity statement is one decidable proposition, so that the history it
    speaks of is evaluated once and not once per conjunct. -/

theorem err_of_gwErr (o : Obs) (e : Err) (h : gwErr o = some e) : o = .err e := by
  cases o with
  | err e' => cases h; rfl
  | ok _ => cases h
  | okBool _ _ => cases h

instance (o : Obs) (e : Err) : Decidable (o = .err e) :=
  decidable_of_iff (gwErr o = some e) ⟨err_of_gwErr o e, fun h => by rw [h]; rfl⟩

theorem exists_ok_of_gwOk (o : Obs) (h : (match o with | .ok _ => true | _ => false) = true) : ∃ evs, o = .ok evs := by
  cases o with
  | ok evs => exact ⟨evs, rfl⟩
  | err _ => cases h
  | okBool _ _ => cases h

theorem eq_ok_of_toOption {ε α : Type} (x : Except ε α) (a : α) (h : x.toOption = some a) : x = .ok a := by
  cases x with
  | ok r => cases h; rfl
  | error e => cases h

instance {ε : Type} (x : Except ε Bool) (b : Bool) : Decidable (x = .ok b) :=
  decidable_of_iff (x.toOption = some b) ⟨eq_ok_of_toOption x b, fun h => by rw [h]; rfl⟩

theorem eq_ok_unit_iff_isOk {ε : Type} (x : Except ε Unit) : x = .ok () ↔ x.isOk = true := by
  cases x with
  | ok r => exact ⟨fun _ => rfl, fun _ => rfl⟩
  | error e => exact ⟨nofun, nofun⟩

/-- `validate_signers` decides well-formedness -/
instance (ws : WSigners) : Decidable (WellFormed ws) :=
  decidable_of_iff ((validateSigners ws).isOk = true) ((eq_ok_unit_iff_isOk _).symm.trans validateSigners_ok_iff)
instance (m : Message) : Decidable m.Typed := by unfold Message.Typed Addr.WF; exact inferInstance
instance (ws : WSigners) : Decidable ws.Typed := by unfold WSigners.Typed WSigner.Typed; exact inferInstance
instance {σ : Type} (op : Op σ) : Decidable op.Typed := by
  cases op <;> unfold Op.Typed <;> exact inferInstance

theorem exists_ok_of_isOk {ε α : Type} (x : Except ε α) (h : x.isOk = true) : ∃ r, x = .ok r := by
  cases x with
  | ok r => exact ⟨r, rfl⟩
  | error e => cases h

instance {ε α : Type} (x : Except ε α) : Decidable (∃ r, x = .ok r) :=
  decidable_of_iff (x.isOk = true) ⟨exists_ok_of_isOk x, fun ⟨_, h⟩ => by rw [h]; rfl⟩
instance {ε α β : Type} (x : Except ε (α × β)) : Decidable (∃ a b, x = .ok (a, b)) :=
  decidable_of_iff (x.isOk = true) ⟨fun h => let ⟨r, hr⟩ := exists_ok_of_isOk x h; ⟨r.1, r.2, hr⟩, fun ⟨_, _, h⟩ => by rw [h]; rfl⟩

theorem exists_error_of_isOk {ε α : Type} (x : Except ε α) (h : x.isOk = false) : ∃ e, x = .error e :=
  error_of_not_ok fun _ hr => nomatch hr ▸ h

/-- the witness of `∃ a, c = some a ∧ P a` is whatever `c` evaluates to: nothing is evaluated before `P` is decided, and then
    once, by the kernel -/
theorem exists_of_isSome {α : Type} {c : Option α} {P : α → Prop} (h : c.isSome = true) (hp : P (c.get h)) :
    ∃ a, c = some a ∧ P a := ⟨c.get h, (Option.some_get h).symm, hp⟩

end Cgp.Toy
