/-
  Property C17 — only current operators act via the operators contract; calls are forwarded intact.
-/
import Cgp.Proofs.Operators
import Cgp.Toy
namespace Cgp.Props.C17
open Cgp.Xdr Cgp.Operators

variable {τ : Type} (tgt : Target τ)

/-- a call is forwarded exactly when the caller is a member NOW, has authorised the call, and the target accepts it -/
theorem execute_iff (self : Addr) (st : State) (ts : τ) (auths : List Addr) (o c : Addr) (f : Bytes) (args : List ScVal) :
    (∃ r, execute tgt self st ts auths o c f args = .ok r) ↔
      (o ∈ auths ∧ st.isOp o = true ∧ ∃ r, tgt ts ⟨c, f, args, self⟩ = some r) :=
  ⟨fun ⟨r, h⟩ => ⟨(execute_ok_iff.1 h).1, (execute_ok_iff.1 h).2.1, r, (execute_ok_iff.1 h).2.2⟩,
   fun ⟨h1, h2, r, h3⟩ => ⟨r, execute_ok_iff.2 ⟨h1, h2, h3⟩⟩⟩

/-- forwarding is exact: the target sees exactly the named contract, function and arguments (with the operators
    contract as the caller), once, and its post-state and return value are handed back unchanged -/
theorem forward_exact (self : Addr) (st : State) (ts ts' : τ) (auths : List Addr) (o c : Addr) (f : Bytes)
    (args : List ScVal) (v : ScVal)
    (h : execute tgt self st ts auths o c f args = .ok (ts', v)) :
    tgt ts ⟨c, f, args, self⟩ = some (ts', v) :=
  (execute_ok_iff.1 h).2.2

/-- if the target fails the whole call fails and nothing changes (neither the operators contract nor the target) -/
theorem target_failure_aborts (w : World τ) (auths : List Addr) (o c : Addr) (f : Bytes) (args : List ScVal)
    (h : tgt w.ts ⟨c, f, args, w.self⟩ = none) :
    (step tgt w (.execute auths o c f args)).1 = w ∧ ∃ e, (step tgt w (.execute auths o c f args)).2 = .err e :=
  step_execute_err tgt fun _ hr => nomatch h ▸ (execute_ok_iff.1 hr).2.2

/-- a non-member, or a member who has not authorised the call, never reaches the target: the target state is untouched -/
theorem unauthorised_never_forwards (w : World τ) (auths : List Addr) (o c : Addr) (f : Bytes) (args : List ScVal)
    (h : o ∉ auths ∨ w.st.isOp o = false) :
    (step tgt w (.execute auths o c f args)).1 = w ∧ ∃ e, (step tgt w (.execute auths o c f args)).2 = .err e :=
  step_execute_err tgt fun _ hr => h.elim (absurd (execute_ok_iff.1 hr).1) fun hf => nomatch hf ▸ (execute_ok_iff.1 hr).2.1

theorem add_iff (st : State) (auths : List Addr) (a : Addr) :
    (∃ r, addOperator st auths a = .ok r) ↔ (st.owner ∈ auths ∧ st.isOp a = false) :=
  ⟨fun ⟨_, h⟩ => ⟨(addOperator_ok_iff.1 h).1, (addOperator_ok_iff.1 h).2.1⟩, fun ⟨h1, h2⟩ => ⟨_, addOperator_ok_iff.2 ⟨h1, h2, rfl, rfl⟩⟩⟩

theorem remove_iff (st : State) (auths : List Addr) (a : Addr) :
    (∃ r, removeOperator st auths a = .ok r) ↔ (st.owner ∈ auths ∧ st.isOp a = true) :=
  ⟨fun ⟨_, h⟩ => ⟨(removeOperator_ok_iff.1 h).1, (removeOperator_ok_iff.1 h).2.1⟩,
   fun ⟨h1, h2⟩ => ⟨_, removeOperator_ok_iff.2 ⟨h1, h2, rfl, rfl⟩⟩⟩

theorem add_effect (st st' : State) (auths : List Addr) (a : Addr) (evs : List Event)
    (h : addOperator st auths a = .ok (st', evs)) :
    st'.isOp a = true ∧ (∀ x, x ≠ a → st'.isOp x = st.isOp x) ∧ st'.owner = st.owner ∧ evs.length = 1 := by
  obtain ⟨-, -, rfl, rfl⟩ := addOperator_ok_iff.1 h
  exact ⟨if_pos rfl, fun x hx => if_neg hx, rfl, rfl⟩

theorem remove_effect (st st' : State) (auths : List Addr) (a : Addr) (evs : List Event)
    (h : removeOperator st auths a = .ok (st', evs)) :
    st'.isOp a = false ∧ (∀ x, x ≠ a → st'.isOp x = st.isOp x) ∧ st'.owner = st.owner ∧ evs.length = 1 := by
  obtain ⟨-, -, rfl, rfl⟩ := removeOperator_ok_iff.1 h
  exact ⟨if_pos rfl, fun x hx => if_neg hx, rfl, rfl⟩

/-- membership of `a` implied by a history: the last successful add/remove of `a` decides, else the initial value -/
def memberAfter (a : Addr) (init : Bool) : List Op → List Obs → Bool
  | (.add _ x) :: ops, (.ok _) :: os => memberAfter a (if x = a then true else init) ops os
  | (.remove _ x) :: ops, (.ok _) :: os => memberAfter a (if x = a then false else init) ops os
  | _ :: ops, _ :: os => memberAfter a init ops os
  | _, _ => init

/-- **membership = history**: after any history the set is exactly what the successful adds and removes imply -/
theorem membership_history (w : World τ) (ops : List Op) (a : Addr) :
    (run tgt w ops).1.st.isOp a = memberAfter a (w.st.isOp a) ops (run tgt w ops).2 := by
  induction ops generalizing w with
  | nil => rfl
  | cons op ops ih =>
    rw [run_cons, ih]
    -- one step of `memberAfter` against one step of the model: once operation and outcome are constructors both compute
    have h := step_effect tgt w op
    generalize step tgt w op = r at h ⊢
    cases h with
    | refused => cases op <;> rfl
    | add | remove =>
      exact congrArg (memberAfter a · ops _) (ite_congr (propext eq_comm) (fun _ => rfl) (fun _ => rfl))
    | _ => rfl

/-- the set changes only by the owner's authorised add of an absent address or remove of a present one -/
theorem set_changes_only_by_owner (w : World τ) (op : Op) (a : Addr)
    (h : (step tgt w op).1.st.isOp a ≠ w.st.isOp a) :
    (∃ auths, op = .add auths a ∧ w.st.owner ∈ auths ∧ w.st.isOp a = false) ∨
    (∃ auths, op = .remove auths a ∧ w.st.owner ∈ auths ∧ w.st.isOp a = true) := by
  have he := step_effect tgt w op
  generalize step tgt w op = r at he h
  cases he with
  | @add au x _ ho hn =>
    by_cases hx : a = x
    · subst hx; exact .inl ⟨au, rfl, ho, hn⟩
    · exact absurd (if_neg hx) h
  | @remove au x _ ho hm =>
    by_cases hx : a = x
    · subst hx; exact .inr ⟨au, rfl, ho, hm⟩
    · exact absurd (if_neg hx) h
  | _ => exact absurd rfl h

/-- forwarding never changes the operators contract's own state; only `execute` can change the target's -/
theorem execute_keeps_state (w : World τ) (auths : List Addr) (o c : Addr) (f : Bytes) (args : List ScVal) :
    (step tgt w (.execute auths o c f args)).1.st = w.st ∧ (step tgt w (.execute auths o c f args)).1.self = w.self := by
  have he := step_effect tgt w (.execute auths o c f args)
  generalize step tgt w (.execute auths o c f args) = r at he ⊢
  cases he with
  | _ => exact ⟨rfl, rfl⟩

theorem target_touched_only_by_execute (w : World τ) (op : Op) (h : (step tgt w op).1.ts ≠ w.ts) :
    ∃ auths o c f args, op = .execute auths o c f args ∧ o ∈ auths ∧ w.st.isOp o = true := by
  have he := step_effect tgt w op
  generalize step tgt w op = r at he h
  cases he with
  | execute ha hm => exact ⟨_, _, _, _, _, rfl, ha, hm⟩
  | _ => exact absurd rfl h

theorem rejected_unchanged (w : World τ) (op : Op) (e : Err) (h : (step tgt w op).2 = .err e) :
    (step tgt w op).1 = w :=
  step_err tgt w op e h

/-- the owner's administrative step — upgrade to the same code and migration — leaves the operator set, the owner and the
    target untouched, whether it is accepted or refused (the history theorems above range over this operation as well) -/
theorem admin_step_changes_nothing (w : World τ) (auths : List Addr) :
    (step tgt w (.upgradeMigrate auths)).1 = w ∧
    ((step tgt w (.upgradeMigrate auths)).2 = .ok [] ↔ w.st.owner ∈ auths) := by
  refine ⟨step_upgradeMigrate_fst, ?_⟩
  simp only [step]
  split
  · next h => exact ⟨fun _ => h, fun _ => rfl⟩
  · next h => exact ⟨nofun, fun h' => absurd h' h⟩

section NonVacuity
open Cgp.Toy

def opsAddr : Addr := ⟨true, List.replicate 32 4⟩
def tgtAddr : Addr := ⟨true, List.replicate 32 5⟩
def op1 : Addr := ⟨false, List.replicate 32 11⟩
def op2 : Addr := ⟨false, List.replicate 32 12⟩
def stranger : Addr := ⟨false, List.replicate 32 13⟩
/-- the target: an accumulator at `tgtAddr` with one entry point "f" that only the operators contract may call; it adds its
    argument to its state and returns the new total; anything else traps -/
def tgt0 : Target Nat := fun n call =>
  if call.contract = tgtAddr ∧ call.func = [102] ∧ call.invoker = opsAddr then
    match call.args with
    | [.u64 k] => some (n + k, .u64 (n + k))
    | _ => none
  else none
def w0 : World Nat := { self := opsAddr, st := { owner := owner0, isOp := fun _ => false }, ts := 0 }
def opsH : List Op :=
  [ .execute [op1] op1 tgtAddr [102] [.u64 5],       -- not an operator yet: refused
    .add [stranger] op1,                             -- not the owner: refused
    .add [owner0] op1,
    .add [owner0] op1,                               -- already added: refused
    .execute [op1] op1 tgtAddr [102] [.u64 5],       -- forwarded: the target returns 5
    .execute [] op1 tgtAddr [102] [.u64 5],          -- the operator did not authorise: refused
    .execute [op1] op1 tgtAddr [103] [.u64 5],       -- the target traps: refused
    .execute [op2] op2 tgtAddr [102] [.u64 5],       -- not an operator: refused
    .remove [owner0] op1,
    .execute [op1] op1 tgtAddr [102] [.u64 7],       -- no longer an operator: refused
    .remove [owner0] op1,                            -- not an operator: refused
    .add [owner0] op2,
    .execute [op2] op2 tgtAddr [102] [.u64 7] ]      -- forwarded: the target returns 12
def errOf : Obs → Option Err | .err e => some e | _ => none
def valOf : Obs → Option Nat | .value (.u64 n) => some n | _ => none

/-- `membership_history` and `execute_iff` on a concrete history: an address executes through the contract exactly while it is
    a member — refused before it is added, forwarded (the target's state and return value show it, exactly once) after, refused
    again after it is removed; the membership computed from the history (`memberAfter`) agrees with the state at every point and
    takes both values; the hypotheses of `forward_exact`, `target_failure_aborts`, `unauthorised_never_forwards`,
    `set_changes_only_by_owner`, `target_touched_only_by_execute` and `add_effect` hold at the corresponding calls. -/
theorem operators_history_nonvacuous :
    (run tgt0 w0 opsH).2.map errOf =
      [some .notAnOperator, some .unauthorized, none, some .operatorAlreadyAdded, none, some .unauthorized, some .targetFailed,
       some .notAnOperator, none, some .notAnOperator, some .notAnOperator, none, none] ∧
    (run tgt0 w0 opsH).2.map valOf = [none, none, none, none, some 5, none, none, none, none, none, none, none, some 12] ∧
    (run tgt0 w0 opsH).1.ts = 12 ∧
    [0, 3, 5, 9, 13].map (fun n => (run tgt0 w0 (opsH.take n)).1.st.isOp op1) = [false, true, true, false, false] ∧
    [0, 3, 5, 9, 13].map (fun n => memberAfter op1 (w0.st.isOp op1) (opsH.take n) (run tgt0 w0 (opsH.take n)).2) =
      [false, true, true, false, false] ∧
    [0, 3, 5, 9, 13].map (fun n => (run tgt0 w0 (opsH.take n)).1.st.isOp op2) = [false, false, false, false, true] ∧
    memberAfter op2 (w0.st.isOp op2) opsH (run tgt0 w0 opsH).2 = true ∧
    -- `execute_iff` (right-hand side) and `forward_exact` at the fifth call
    op1 ∈ [op1] ∧ (run tgt0 w0 (opsH.take 4)).1.st.isOp op1 = true ∧
    (tgt0 (run tgt0 w0 (opsH.take 4)).1.ts ⟨tgtAddr, [102], [.u64 5], opsAddr⟩).isSome = true ∧
    (∃ ts' v, execute tgt0 opsAddr (run tgt0 w0 (opsH.take 4)).1.st (run tgt0 w0 (opsH.take 4)).1.ts [op1] op1 tgtAddr [102]
        [.u64 5] = .ok (ts', v)) ∧
    -- `target_failure_aborts` at the seventh
    tgt0 (run tgt0 w0 (opsH.take 6)).1.ts ⟨tgtAddr, [103], [.u64 5], (run tgt0 w0 (opsH.take 6)).1.self⟩ = none ∧
    -- `unauthorised_never_forwards` at the sixth and the tenth
    (op1 ∉ ([] : List Addr) ∨ (run tgt0 w0 (opsH.take 5)).1.st.isOp op1 = false) ∧
    (op1 ∉ [op1] ∨ (run tgt0 w0 (opsH.take 9)).1.st.isOp op1 = false) ∧
    -- `set_changes_only_by_owner` at the third and ninth, `target_touched_only_by_execute` at the fifth
    (step tgt0 (run tgt0 w0 (opsH.take 2)).1 (.add [owner0] op1)).1.st.isOp op1 ≠ (run tgt0 w0 (opsH.take 2)).1.st.isOp op1 ∧
    (step tgt0 (run tgt0 w0 (opsH.take 8)).1 (.remove [owner0] op1)).1.st.isOp op1 ≠ (run tgt0 w0 (opsH.take 8)).1.st.isOp op1 ∧
    (step tgt0 (run tgt0 w0 (opsH.take 4)).1 (.execute [op1] op1 tgtAddr [102] [.u64 5])).1.ts ≠ (run tgt0 w0 (opsH.take 4)).1.ts ∧
    -- `add_effect` / `remove_effect`
    (∃ st' evs, addOperator (run tgt0 w0 (opsH.take 2)).1.st [owner0] op1 = .ok (st', evs)) ∧
    (∃ st' evs, removeOperator (run tgt0 w0 (opsH.take 8)).1.st [owner0] op1 = .ok (st', evs)) := by
  decide +kernel

end NonVacuity

end Cgp.Props.C17
