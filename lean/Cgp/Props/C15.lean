/-
  Property C15 — owner-only upgrades, one migration per upgrade, all-or-nothing Upgrader.
-/
import Cgp.Proofs.Upgradable
import Cgp.Toy
namespace Cgp.Props.C15
open Cgp.Xdr Cgp.Upgradable

/-- code produced by `#[derive(Upgradable)]`: has `migrate`, which requires and closes the window; `upgrade` opens it -/
def IsDerived (code : Code) : Prop := code.hasMigrate = true ∧ code.usesWindow = true ∧ code.opensWindow = true

/-- every piece of code the contract can ever run is derived code -/
def AllDerived (codes : Codes) (c : Contract) : Prop := IsDerived c.code ∧ ∀ h code, codes h = some code → IsDerived code

theorem upgrade_needs_owner (codes : Codes) (c c' : Contract) (auths : List Addr) (h : Bytes)
    (hok : upgrade codes c auths h = .ok c') : c.owner ∈ auths :=
  (upgrade_ok_iff.1 hok).1

theorem upgrade_effect (codes : Codes) (c c' : Contract) (auths : List Addr) (h : Bytes)
    (hok : upgrade codes c auths h = .ok c') :
    codes h = some c'.code ∧ c'.owner = c.owner ∧ c'.data = c.data ∧
    (c.code.opensWindow = true → c'.migrating = true) := by
  obtain ⟨-, code, hc, rfl⟩ := upgrade_ok_iff.1 hok
  exact ⟨hc, rfl, rfl, fun ho => by rw [ho]; exact Bool.or_true _⟩

theorem migrate_ok_iff_of_derived {c c' : Contract} {auths : List Addr} {d : List ScVal} {evs : List Event} (hd : IsDerived c.code) :
    migrate c auths d = .ok (c', evs) ↔
      c.code.accepts d = true ∧ c.owner ∈ auths ∧ c.migrating = true ∧
      c' = { c with migrating := false } ∧ evs = [evUpgraded c.code.version] := by
  rw [migrate_ok_iff, if_pos hd.2.1, and_iff_right hd.1]

/-- for derived code and well-typed data: migration runs iff the owner authorised it and the window is open -/
theorem migrate_iff (c : Contract) (auths : List Addr) (d : List ScVal) (hd : IsDerived c.code)
    (hacc : c.code.accepts d = true) :
    (∃ r, migrate c auths d = .ok r) ↔ (c.owner ∈ auths ∧ c.migrating = true) :=
  ⟨fun ⟨_, h⟩ => ⟨((migrate_ok_iff_of_derived hd).1 h).2.1, ((migrate_ok_iff_of_derived hd).1 h).2.2.1⟩,
   fun ⟨ho, hm⟩ => ⟨_, (migrate_ok_iff_of_derived hd).2 ⟨hacc, ho, hm, rfl, rfl⟩⟩⟩

/-- it closes the window, announces the (new) version, and changes nothing else -/
theorem migrate_closes_window (c c' : Contract) (auths : List Addr) (d : List ScVal) (evs : List Event)
    (hd : IsDerived c.code) (hok : migrate c auths d = .ok (c', evs)) :
    c'.migrating = false ∧ evs = [evUpgraded c.code.version] ∧ c'.owner = c.owner ∧ c'.data = c.data ∧
    c'.code.version = c.code.version := by
  obtain ⟨-, -, -, rfl, rfl⟩ := (migrate_ok_iff_of_derived hd).1 hok
  exact ⟨rfl, rfl, rfl, rfl, rfl⟩

theorem migrate_without_window_fails (c : Contract) (auths : List Addr) (d : List ScVal) (hd : IsDerived c.code)
    (hw : c.migrating = false) : ∃ e, migrate c auths d = .error e :=
  error_of_not_ok fun _ h => by rw [((migrate_ok_iff_of_derived hd).1 h).2.2.1] at hw; cases hw

/-- the Upgrader either completes both steps and ends at the requested, different version … -/
theorem upgrader_success (codes : Codes) (c c' : Contract) (au am : List Addr) (nv h : Bytes) (d : List ScVal)
    (evs : List Event) (hok : upgraderUpgrade codes c au am nv h d = .ok (c', evs)) :
    c.code.version ≠ nv ∧ c'.code.version = nv ∧ c.owner ∈ au ∧ c.owner ∈ am ∧
    codes h = some c'.code ∧ c'.owner = c.owner :=
  upgraderUpgrade_ok hok

/-- … and for derived code it leaves the window closed … -/
theorem upgrader_success_closes (codes : Codes) (c c' : Contract) (au am : List Addr) (nv h : Bytes) (d : List ScVal)
    (evs : List Event) (hd : AllDerived codes c) (hok : upgraderUpgrade codes c au am nv h d = .ok (c', evs)) :
    c'.migrating = false ∧ evs = [evUpgraded nv] := by
  obtain ⟨-, c1, hu, hm, hv2⟩ := upgraderUpgrade_ok_iff.1 hok
  obtain ⟨-, code, hcode, rfl⟩ := upgrade_ok_iff.1 hu
  obtain ⟨-, -, -, rfl, rfl⟩ := (migrate_ok_iff_of_derived (hd.2 _ _ hcode)).1 hm
  exact ⟨rfl, by rw [← hv2]⟩

/-- … or leaves the target's code, version, data, window and owner exactly as before -/
theorem upgrader_atomic (codes : Codes) (c : Contract) (au am : List Addr) (nv h : Bytes) (d : List ScVal) :
    (∃ evs, (step codes c (.viaUpgrader au am nv h d)).2 = .ok evs ∧
        (step codes c (.viaUpgrader au am nv h d)).1.code.version = nv ∧ c.code.version ≠ nv) ∨
    ((∃ e, (step codes c (.viaUpgrader au am nv h d)).2 = .err e) ∧ (step codes c (.viaUpgrader au am nv h d)).1 = c) := by
  have he := step_effect codes c (.viaUpgrader au am nv h d)
  generalize step codes c (.viaUpgrader au am nv h d) = r at he ⊢
  cases he with
  | refused _ e => exact .inr ⟨⟨e, rfl⟩, rfl⟩
  | @viaUpgrader _ _ _ _ _ _ evs hu =>
    obtain ⟨hv, -, -, -, hv2⟩ := upgraderUpgrade_ok_iff.1 hu
    exact .inl ⟨evs, rfl, hv2, hv⟩

/-- requesting the current version, or a version the new code does not report, always fails -/
theorem upgrader_version_checks (codes : Codes) (c : Contract) (au am : List Addr) (nv h : Bytes) (d : List ScVal) :
    (c.code.version = nv → ∃ e, upgraderUpgrade codes c au am nv h d = .error e) ∧
    (∀ code, codes h = some code → code.version ≠ nv → ∃ e, upgraderUpgrade codes c au am nv h d = .error e) :=
  ⟨fun hv => error_of_not_ok fun _ hu => (upgraderUpgrade_ok_iff.1 hu).1 hv,
   fun code hcode hne => error_of_not_ok fun _ hu => by
    obtain ⟨-, hv2, -, -, hcode', -⟩ := upgraderUpgrade_ok hu
    rw [hcode] at hcode'
    cases hcode'
    exact hne hv2⟩

/-- derived-ness is preserved by every operation -/
theorem allDerived_step (codes : Codes) (c : Contract) (op : Op) (h : AllDerived codes c) :
    AllDerived codes (step codes c op).1 := by
  refine ⟨?_, h.2⟩
  have he := step_effect codes c op
  generalize step codes c op = r at he ⊢
  cases he with
  | upgrade _ hc => exact h.2 _ _ hc
  | migrate hm => exact (migrate_keeps hm).2.2 ▸ h.1
  | viaUpgrader hu => exact h.2 _ _ (upgraderUpgrade_ok hu).2.2.2.2.1
  | _ => exact h.1

/-- successful direct migrations / upgrades in a history -/
def migrations : List Op → List Obs → Nat
  | (.migrate _ _) :: ops, (.ok _) :: os => migrations ops os + 1
  | _ :: ops, _ :: os => migrations ops os
  | _, _ => 0
def upgrades : List Op → List Obs → Nat
  | (.upgrade _ _) :: ops, (.ok _) :: os => upgrades ops os + 1
  | _ :: ops, _ :: os => upgrades ops os
  | _, _ => 0

def dM : Op → Obs → Nat
  | .migrate _ _, .ok _ => 1
  | _, _ => 0
def dU : Op → Obs → Nat
  | .upgrade _ _, .ok _ => 1
  | _, _ => 0

-- after `cases` both sides compute; unfolding `migrations` with `simp` goes through the conditional equation lemmas of its
-- overlapping patterns and is slow to check
theorem migrations_cons (op : Op) (ops : List Op) (o : Obs) (os : List Obs) :
    migrations (op :: ops) (o :: os) = migrations ops os + dM op o := by
  cases op <;> cases o <;> rfl

theorem upgrades_cons (op : Op) (ops : List Op) (o : Obs) (os : List Obs) :
    upgrades (op :: ops) (o :: os) = upgrades ops os + dU op o := by
  cases op <;> cases o <;> rfl

/-- the invariant of `no_double_migrate`, one step: a migration consumes an open window, only an upgrade opens one -/
theorem step_count (codes : Codes) (c : Contract) (op : Op) (hd : AllDerived codes c) :
    dM op (step codes c op).2 + (if (step codes c op).1.migrating then 1 else 0)
      ≤ dU op (step codes c op).2 + (if c.migrating then 1 else 0) := by
  have he := step_effect codes c op
  generalize step codes c op = r at he ⊢
  cases he with
  | refused => cases op <;> exact Nat.le_refl _
  | upgrade =>
    show 0 + _ ≤ 1 + _
    split <;> split <;> omega
  | migrate hm =>
    obtain ⟨-, -, hmig, rfl, -⟩ := (migrate_ok_iff_of_derived hd.1).1 hm
    show 1 + 0 ≤ 0 + _
    rw [if_pos hmig]; exact Nat.le_refl _
  | viaUpgrader hu =>
    show 0 + _ ≤ 0 + _
    rw [(upgrader_success_closes _ _ _ _ _ _ _ _ _ hd hu).1]
    exact Nat.zero_le _
  | transferOwnership => exact Nat.le_refl _

theorem ndm_gen (codes : Codes) (ops : List Op) (c : Contract) (hd : AllDerived codes c) :
    migrations ops (run codes c ops).2 + (if (run codes c ops).1.migrating then 1 else 0)
      ≤ upgrades ops (run codes c ops).2 + (if c.migrating then 1 else 0) := by
  induction ops generalizing c with
  | nil => exact Nat.le_refl _
  | cons op ops ih =>
    have ih' := ih _ (allDerived_step codes c op hd)
    have hs := step_count codes c op hd
    rw [run_cons]
    simp only [migrations_cons, upgrades_cons]
    omega

/-- **one migration per upgrade, over every history**: starting with the window closed, the number of successful
    migrations (plus one if the window is still open) never exceeds the number of successful upgrades — so a
    migration can never run twice for one upgrade, nor without a preceding upgrade.  (Upgrades driven through the
    Upgrader are atomic upgrade+migrate pairs and count on neither side.) -/
theorem no_double_migrate (codes : Codes) (c : Contract) (ops : List Op) (hd : AllDerived codes c)
    (hw : c.migrating = false) :
    migrations ops (run codes c ops).2 + (if (run codes c ops).1.migrating then 1 else 0)
      ≤ upgrades ops (run codes c ops).2 := by
  have := ndm_gen codes ops c hd
  rwa [hw] at this

theorem rejected_unchanged (codes : Codes) (c : Contract) (op : Op) (e : Err) (h : (step codes c op).2 = .err e) :
    (step codes c op).1 = c :=
  step_err codes c op e h

/-- code, window and owner change only through calls the CURRENT owner authorised -/
theorem changes_need_owner (codes : Codes) (c : Contract) (op : Op) (h : (step codes c op).1 ≠ c) :
    c.owner ∈ (match op with
      | .upgrade au _ => au
      | .migrate au _ => au
      | .viaUpgrader au _ _ _ _ => au
      | .transferOwnership au _ => au) := by
  have he := step_effect codes c op
  generalize step codes c op = r at he h
  cases he with
  | refused => exact absurd rfl h
  | upgrade ho => exact ho
  | migrate hm => exact (migrate_keeps hm).1
  | viaUpgrader hu => exact (upgraderUpgrade_ok hu).2.2.1
  | transferOwnership ho => exact ho

section NonVacuity
open Cgp.Toy

/-- derived code reporting version `v`; its `migrate` takes no data -/
def derived (v : Bytes) : Code :=
  { version := v, hasMigrate := true, usesWindow := true, accepts := fun d => d.isEmpty, store := fun _ => none, opensWindow := true }
def v1 : Bytes := [49]
def v2 : Bytes := [50]
def v3 : Bytes := [51]
def h2 : Bytes := List.replicate 32 2
def h3 : Bytes := List.replicate 32 3
/-- the ledger's code table: two uploaded wasm hashes -/
def codes0 : Codes := fun h => if h = h2 then some (derived v2) else if h = h3 then some (derived v3) else none
def stranger : Addr := ⟨false, List.replicate 32 12⟩
def c0 : Contract := { owner := owner0, code := derived v1, migrating := false, data := some [7] }
def opsU : List Op :=
  [ .migrate [owner0] [],                                  -- no upgrade before: refused
    .upgrade [stranger] h2,                                -- not the owner: refused
    .upgrade [owner0] [99],                                -- no such code: refused
    .upgrade [owner0] h2,                                  -- version 2 installed, window open
    .migrate [stranger] [],                                -- not the owner: refused
    .migrate [owner0] [],                                  -- runs, closes the window
    .migrate [owner0] [],                                  -- second migration for the same upgrade: refused
    .viaUpgrader [owner0] [owner0] v2 h3 [],               -- Upgrader asked for the current version: refused
    .viaUpgrader [owner0] [owner0] [57] h3 [],             -- Upgrader asked for a version the new code does not report: refused
    .viaUpgrader [owner0] [] v3 h3 [],                     -- nested migrate not authorised: refused, the upgrade is rolled back too
    .viaUpgrader [owner0] [owner0] v3 h3 [],               -- upgrade + migrate in one call: version 3, window closed
    .upgrade [owner0] h2 ]                                 -- a further upgrade, not yet migrated: window open
def errOf : Obs → Option Err | .err e => some e | _ => none
def nEvents : Obs → Nat | .ok evs => evs.length | .err _ => 0
/-- the decidable part of a contract -/
def view (c : Contract) : Addr × Bytes × Bool × Option Bytes := (c.owner, c.code.version, c.migrating, c.data)

theorem derived_isDerived (v : Bytes) : IsDerived (derived v) := ⟨rfl, rfl, rfl⟩

theorem allDerived_c0 : AllDerived codes0 c0 := by
  refine ⟨derived_isDerived _, fun h code hc => ?_⟩
  unfold codes0 at hc
  split at hc
  · cases hc; exact derived_isDerived _
  · split at hc <;> cases hc
    exact derived_isDerived _

/-- the hypotheses of `no_double_migrate` are satisfiable and its bound is attained: from a contract with the window closed and
    only derived code around, a migration without upgrade is refused, an upgrade by the owner succeeds, its migration runs once,
    the second migration is refused; Upgrader calls for the current version, for a version the new code does not report, and
    without the owner's authorisation of the nested migrate are refused and leave owner, version, window and data as they were
    (`upgrader_atomic`, second alternative); a correct Upgrader call ends at the new version with the window closed (first
    alternative); after one more upgrade: 1 migration + 1 open window = 2 upgrades. -/
theorem upgrade_history_nonvacuous :
    AllDerived codes0 c0 ∧ c0.migrating = false ∧
    (run codes0 c0 opsU).2.map errOf =
      [some .migrationNotAllowed, some .unauthorized, some .noSuchCode, none, some .unauthorized, none,
       some .migrationNotAllowed, some .sameVersion, some .unexpectedNewVersion, some .unauthorized, none, none] ∧
    (run codes0 c0 opsU).2.map nEvents = [0, 0, 0, 0, 0, 1, 0, 0, 0, 0, 1, 0] ∧
    migrations opsU (run codes0 c0 opsU).2 = 1 ∧ upgrades opsU (run codes0 c0 opsU).2 = 2 ∧
    (run codes0 c0 opsU).1.migrating = true ∧
    migrations (opsU.take 7) (run codes0 c0 (opsU.take 7)).2 = 1 ∧ upgrades (opsU.take 7) (run codes0 c0 (opsU.take 7)).2 = 1 ∧
    [0, 3, 4, 6, 7, 8, 9, 10, 11, 12].map (fun n => view (run codes0 c0 (opsU.take n)).1) =
      [(owner0, v1, false, some [7]), (owner0, v1, false, some [7]), (owner0, v2, true, some [7]), (owner0, v2, false, some [7]),
       (owner0, v2, false, some [7]), (owner0, v2, false, some [7]), (owner0, v2, false, some [7]), (owner0, v2, false, some [7]),
       (owner0, v3, false, some [7]), (owner0, v2, true, some [7])] ∧
    -- `migrate_iff` / `migrate_closes_window`: data accepted, owner's authorisation, window open
    (run codes0 c0 (opsU.take 5)).1.code.accepts [] = true ∧
    (∃ c' evs, migrate (run codes0 c0 (opsU.take 5)).1 [owner0] [] = .ok (c', evs)) ∧
    -- `upgrade_effect`, `upgrader_success`
    (∃ c', upgrade codes0 c0 [owner0] h2 = .ok c') ∧
    (∃ c' evs, upgraderUpgrade codes0 (run codes0 c0 (opsU.take 10)).1 [owner0] [owner0] v3 h3 [] = .ok (c', evs)) :=
  ⟨allDerived_c0, by decide +kernel⟩

end NonVacuity

end Cgp.Props.C15
