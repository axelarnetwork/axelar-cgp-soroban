/-
  Property C18 — remote token deployments announce the registered token's true id and metadata.
-/
import Cgp.Proofs.ItsBal
namespace Cgp.Props.C18
open Cgp.Xdr Cgp.Its

variable (H : Bytes → Bytes) (S : Bytes → Bytes) (k : Consts)

/-- the deploy message announced for token `t` registered under `tid` -/
def announcedMsg (tid : Bytes) (t : Tok) : Abi.Msg := .deploy ⟨tid, t.name, t.symbol, t.decimals % 256, none⟩

/-- what a remote deployment of the token registered under the id derived from `salt'` needs, and what it does -/
theorem deployRemoteToken_exact (st st' : State) (spender : Addr) (spenderAuth : Bool) (salt' dest : Bytes)
    (gasToken : Addr) (gasAmount : Int) (tid : Bytes) (evs : List Event)
    (h : deployRemoteToken H k st spender spenderAuth salt' dest gasToken gasAmount = .ok (st', tid, evs)) :
    tid = tokenIdOf H k zeroAddr salt' ∧
    ∃ addr mgr t payload,
      st.registry tid = some (addr, mgr) ∧ st.tokens addr = some t ∧
      validMetadata t.name t.symbol t.decimals = true ∧
      st.trusted dest = true ∧ spenderAuth = true ∧ 0 < gasAmount ∧
      Abi.encodeHub (.sendToHub dest (announcedMsg tid t)) = .ok payload ∧
      evs = [evDeploymentStarted st tid addr dest t.name t.symbol t.decimals,
             evGasPaid H k st payload spender gasToken gasAmount, evContractCalled H k st payload] ∧
      tokTransfer st gasToken spender st.gasService gasAmount true = .ok st' := by
  obtain ⟨rfl, addr, mgr, t, evs', hreg, htok, hvm, hp, rfl⟩ := deployRemoteToken_ok h
  obtain ⟨h1, h2, h3, payload, h4, h6, rfl⟩ := payGasAndCall_ok hp
  exact ⟨rfl, addr, mgr, t, payload, hreg, htok, hvm, h1, h2, h3, h4, rfl, h6⟩

/-- interchain form: only with the caller's authorisation, only for the id derived from the CALLER'S OWN (deployer, salt) pair -/
theorem remote_interchain_needs (st st' : State) (auths : List Addr) (caller : Addr) (salt dest : Bytes) (gasToken : Addr)
    (gasAmount : Int) (tid : Bytes) (evs : List Event)
    (h : deployRemoteInterchainToken H k st auths caller salt dest gasToken gasAmount = .ok (st', tid, evs)) :
    caller ∈ auths ∧ tid = interchainTokenId H k st.chainName caller salt ∧ (st.registry tid).isSome = true ∧
    st.trusted dest = true ∧ 0 < gasAmount := by
  obtain ⟨hc, h⟩ := deployRemoteInterchainToken_ok_iff.mp h
  obtain ⟨rfl, addr, mgr, t, payload, hreg, -, -, htr, -, hg, -⟩ := deployRemoteToken_exact H k _ _ _ _ _ _ _ _ _ _ h
  exact ⟨hc, rfl, by rw [hreg]; rfl, htr, hg⟩

/-- canonical form: the id is derived from the token address; the payer authorises through the gas payment -/
theorem remote_canonical_needs (st st' : State) (auths : List Addr) (token : Addr) (dest : Bytes) (spender gasToken : Addr)
    (gasAmount : Int) (tid : Bytes) (evs : List Event)
    (h : deployRemoteCanonicalToken H k st auths token dest spender gasToken gasAmount = .ok (st', tid, evs)) :
    spender ∈ auths ∧ tid = canonicalTokenId H k st.chainName token ∧ (st.registry tid).isSome = true ∧
    st.trusted dest = true ∧ 0 < gasAmount := by
  obtain ⟨rfl, addr, mgr, t, payload, hreg, -, -, htr, hau, hg, -⟩ := deployRemoteToken_exact H k _ _ _ _ _ _ _ _ _ _ h
  exact ⟨of_decide_eq_true hau, rfl, by rw [hreg]; rfl, htr, hg⟩

/-- it moves no funds other than the gas payment and changes nothing else -/
theorem remote_deploy_moves_only_gas (st st' : State) (spender : Addr) (spenderAuth : Bool) (salt' dest : Bytes)
    (gasToken : Addr) (gasAmount : Int) (tid : Bytes) (evs : List Event)
    (h : deployRemoteToken H k st spender spenderAuth salt' dest gasToken gasAmount = .ok (st', tid, evs)) :
    st'.registry = st.registry ∧ st'.trusted = st.trusted ∧ st'.gw = st.gw ∧ st'.owner = st.owner ∧
    (∀ tk, tk ≠ gasToken → st'.tokens tk = st.tokens tk) ∧
    (∀ h', h' ≠ spender → h' ≠ st.gasService → balOf st' gasToken h' = balOf st gasToken h') ∧
    (spender ≠ st.gasService → balOf st' gasToken spender = balOf st gasToken spender - gasAmount ∧
                               balOf st' gasToken st.gasService = balOf st gasToken st.gasService + gasAmount) := by
  obtain ⟨-, addr, mgr, t, payload, -, -, -, -, -, -, -, -, htt⟩ := deployRemoteToken_exact H k _ _ _ _ _ _ _ _ _ _ h
  obtain ⟨tk, htk, -, -, -, -, rfl⟩ := tokTransfer_ok_iff.mp htt
  obtain ⟨m1, -, m3⟩ := bump_bump tk.bal spender st.gasService gasAmount
  simp only [balOf_setTok, if_true, balOf_of_tokens htk]
  exact ⟨rfl, rfl, rfl, rfl, fun _ => setTok_other, m3, m1⟩

/-- tokens whose metadata cannot be represented are refused: empty name, empty symbol, more than 255 decimals -/
theorem unrepresentable_metadata_refused (st : State) (spender : Addr) (spenderAuth : Bool) (salt' dest : Bytes)
    (gasToken : Addr) (gasAmount : Int) (addr : Addr) (mgr : Manager) (t : Tok)
    (hreg : st.registry (tokenIdOf H k zeroAddr salt') = some (addr, mgr)) (htok : st.tokens addr = some t)
    (hbad : t.name = [] ∨ t.symbol = [] ∨ 255 < t.decimals) :
    ∃ e, deployRemoteToken H k st spender spenderAuth salt' dest gasToken gasAmount = .error e := by
  refine error_of_not_ok fun ⟨_, _, _⟩ hr => ?_
  obtain ⟨rfl, _, _, _, _, hreg', htok', hvm, -⟩ := deployRemoteToken_ok hr
  cases hreg.symm.trans hreg'
  cases htok.symm.trans htok'
  unfold validMetadata at hvm
  simp only [Bool.and_eq_true, decide_eq_true_eq, Bool.not_eq_true', List.isEmpty_eq_false_iff] at hvm
  rcases hbad with hb | hb | hb
  · exact hvm.1.2 hb
  · exact hvm.2 hb
  · omega

/-- unregistered id, untrusted destination, non-positive gas: refused -/
theorem remote_deploy_refusals (st : State) (spender : Addr) (spenderAuth : Bool) (salt' dest : Bytes)
    (gasToken : Addr) (gasAmount : Int) :
    (st.registry (tokenIdOf H k zeroAddr salt') = none → ∃ e, deployRemoteToken H k st spender spenderAuth salt' dest gasToken gasAmount = .error e) ∧
    (st.trusted dest = false → ∃ e, deployRemoteToken H k st spender spenderAuth salt' dest gasToken gasAmount = .error e) ∧
    (gasAmount ≤ 0 → ∃ e, deployRemoteToken H k st spender spenderAuth salt' dest gasToken gasAmount = .error e) ∧
    (spenderAuth = false → ∃ e, deployRemoteToken H k st spender spenderAuth salt' dest gasToken gasAmount = .error e) := by
  have ok : ∀ r, deployRemoteToken H k st spender spenderAuth salt' dest gasToken gasAmount = .ok r →
      st.registry (tokenIdOf H k zeroAddr salt') ≠ none ∧ st.trusted dest = true ∧ 0 < gasAmount ∧
      spenderAuth = true := fun r hr => by
    obtain ⟨htid, addr, mgr, t, payload, hreg, -, -, htr, hau, hg, -⟩ :=
      deployRemoteToken_exact H k _ r.1 _ _ _ _ _ _ r.2.1 r.2.2 hr
    exact ⟨by rw [← htid, hreg]; nofun, htr, hg, hau⟩
  exact ⟨fun hh => error_of_not_ok fun r hr => (ok r hr).1 hh,
    fun hh => error_of_not_ok fun r hr => (nomatch hh.symm.trans (ok r hr).2.1),
    fun hh => error_of_not_ok fun r hr => Int.not_le.mpr (ok r hr).2.2.1 hh,
    fun hh => error_of_not_ok fun r hr => (nomatch hh.symm.trans (ok r hr).2.2.2)⟩

/-- a refused request changes nothing -/
theorem remote_deploy_rejected_unchanged (st : State) (op : Op) (e : Err) (h : (step H S k st op).2 = .err e) :
    (step H S k st op).1 = st :=
  step_err H S k st op e h

end Cgp.Props.C18
