/-
  Property C08 — old signer sets stay valid for exactly the configured number of rotations.
-/
import Cgp.Props.C03
namespace Cgp.Props.C08
open Cgp.Xdr Cgp.Gateway

variable (H : Bytes → Bytes) {σ : Type} (V : Bytes → Bytes → σ → Bool)

theorem run_nil (w : World) : run H V w ([] : List (Op σ)) = (w, []) := rfl

/-- For a set installed at epoch `e` and a proof whose signatures are otherwise fine, the proof check
    (used by approvals, standalone checks and rotations alike) succeeds iff at most `retention` newer sets exist. -/
theorem retained_iff (st : State) (dh : Bytes) (proof : Proof σ) (e : Nat)
    (hinst : st.epochByHash (signersHash H proof.weightedSigners) = some e) (he : e ≤ st.epoch)
    (hsig : validateSignaturesLoop V (messageHashToSign H st.domain (signersHash H proof.weightedSigners) dh)
              proof.threshold proof.signers 0 = .ok true) :
    (∃ b, validateProof H V st dh proof = .ok b) ↔ st.epoch - e ≤ st.retention := by
  constructor
  · rintro ⟨b, hb⟩
    obtain ⟨e', he', _, h2, _⟩ := validateProof_ok_iff.mp hb
    cases hinst.symm.trans he'
    exact h2
  · exact fun h => ⟨_, validateProof_ok_iff.mpr ⟨e, hinst, he, h, hsig, rfl⟩⟩

/-- the approval path honours exactly the same window -/
theorem approve_retained_iff (st : State) (ms : List Message) (hms : ms ≠ []) (proof : Proof σ) (e : Nat)
    (hinst : st.epochByHash (signersHash H proof.weightedSigners) = some e) (he : e ≤ st.epoch)
    (hsig : validateSignaturesLoop V (messageHashToSign H st.domain (signersHash H proof.weightedSigners) (approveDataHash H ms))
              proof.threshold proof.signers 0 = .ok true) :
    (∃ r, approveMessages H V st ms proof = .ok r) ↔ st.epoch - e ≤ st.retention := by
  rw [← retained_iff H V st (approveDataHash H ms) proof e hinst he hsig]
  constructor
  · rintro ⟨r, h⟩
    exact (approveMessages_ok_iff.mp h).1
  · exact fun hb => ⟨_, approveMessages_ok_iff.mpr ⟨hb, hms, rfl⟩⟩

/-- without bypass only the newest set can authorise a rotation -/
theorem nonbypass_needs_latest (st : State) (auths : List Addr) (ws : WSigners) (proof : Proof σ) (now : Nat)
    (r : State × List Event)
    (h : rotateSigners H V st auths ws proof false now = .ok r) :
    st.epochByHash (signersHash H proof.weightedSigners) = some st.epoch := by
  obtain ⟨_, ⟨b, hb, hl⟩, _⟩ := rotateSigners_ok_iff.mp h
  exact (validateProof_latest hb).mp (hl rfl)

/-- a bypass rotation is refused for a set outside the window no matter who authorises it -/
theorem bypass_needs_retained (st : State) (auths : List Addr) (ws : WSigners) (proof : Proof σ) (now e : Nat)
    (r : State × List Event)
    (hinst : st.epochByHash (signersHash H proof.weightedSigners) = some e)
    (h : rotateSigners H V st auths ws proof true now = .ok r) :
    e ≤ st.epoch ∧ st.epoch - e ≤ st.retention := by
  obtain ⟨_, ⟨b, hb, _⟩, _⟩ := rotateSigners_ok_iff.mp h
  obtain ⟨e', he', h1, h2, _⟩ := validateProof_ok_iff.mp hb
  cases hinst.symm.trans he'
  exact ⟨h1, h2⟩

/-- number of successful rotations in a list of observations paired with their operations -/
def rotations : List (Op σ) → List Obs → Nat
  | (.rotate _ _ _ _) :: ops, (.ok _) :: os => rotations ops os + 1
  | _ :: ops, _ :: os => rotations ops os
  | _, _ => 0

/-- history form: the epoch after any history is the old epoch plus the number of successful rotations … -/
theorem epoch_after_history (w : World) (ops : List (Op σ)) :
    (run H V w ops).1.st.epoch = w.st.epoch + rotations ops (run H V w ops).2 := by
  induction ops generalizing w with
  | nil => rfl
  | cons op ops ih =>
    rw [run_cons, ih]
    have h := step_effect H V w op
    generalize step H V w op = r at h ⊢
    cases h with
    | refused op => cases op <;> rfl
    | rotate => exact Nat.add_right_comm ..
    | _ => rfl

theorem step_stable (w : World) (op : Op σ) :
    (step H V w op).1.st.retention = w.st.retention ∧
      ∀ x e, w.st.epochByHash x = some e → (step H V w op).1.st.epochByHash x = some e := by
  have h := step_effect H V w op
  generalize step H V w op = r at h ⊢
  cases h with
  | rotate _ _ _ _ _ hn =>
    -- a rotation registers a hash that was not registered (`hn`), so it is none of the installed ones
    refine ⟨rfl, fun x e hx => (if_neg ?_).trans hx⟩
    rintro rfl
    rw [hn] at hx; cases hx
  | _ => exact ⟨rfl, fun _ _ hx => hx⟩

theorem epochByHash_stable (w : World) (ops : List (Op σ)) (h : Bytes) (e : Nat)
    (hinst : w.st.epochByHash h = some e) :
    (run H V w ops).1.st.epochByHash h = some e ∧ (run H V w ops).1.st.retention = w.st.retention :=
  run_inv H V (I := fun w' => w'.st.epochByHash h = some e ∧ w'.st.retention = w.st.retention)
    (fun w' op hw => ⟨(step_stable H V w' op).2 h e hw.1, (step_stable H V w' op).1.trans hw.2⟩) ops w ⟨hinst, rfl⟩

/-- … an installed set keeps its epoch forever, and the retention setting never changes … -/
theorem installed_epoch_stable (w : World) (ops : List (Op σ)) (h : Bytes) (e : Nat)
    (hinv : GInv H w.st) (hinst : w.st.epochByHash h = some e) :
    (run H V w ops).1.st.epochByHash h = some e ∧ (run H V w ops).1.st.retention = w.st.retention := by
  have _ := hinv  -- the statement asks for the invariant; the proof does not need it
  exact epochByHash_stable H V w ops h e hinst

/-- … so a set installed at `e` is honoured after `k` further successful rotations iff `(epoch - e) + k ≤ retention`:
    refused from the moment one more than `retention` newer sets exist. -/
theorem after_k_rotations (w : World) (ops : List (Op σ)) (dh : Bytes) (proof : Proof σ) (e : Nat)
    (hinv : GInv H w.st)
    (hinst : w.st.epochByHash (signersHash H proof.weightedSigners) = some e) (he : e ≤ w.st.epoch)
    (hsig : validateSignaturesLoop V
              (messageHashToSign H (run H V w ops).1.st.domain (signersHash H proof.weightedSigners) dh)
              proof.threshold proof.signers 0 = .ok true) :
    (∃ b, validateProof H V (run H V w ops).1.st dh proof = .ok b) ↔
      (w.st.epoch - e) + rotations ops (run H V w ops).2 ≤ w.st.retention := by
  have _ := hinv  -- as above
  obtain ⟨hi, hr⟩ := epochByHash_stable H V w ops (signersHash H proof.weightedSigners) e hinst
  have hep := epoch_after_history H V w ops
  rw [retained_iff H V (run H V w ops).1.st dh proof e hi (hep ▸ Nat.le_add_right_of_le he) hsig, hr, hep,
    Nat.sub_add_comm he]

section NonVacuity
open Cgp.Toy

def dst : Addr := ⟨true, List.replicate 32 9⟩
def msg (i : UInt8) : Message := ⟨[97], [i], [98], dst, List.replicate 32 3⟩
/-- retention 1; `pf0` is a proof by the FIRST set `ws0` -/
def opsK : List (Op Unit) :=
  [ .approve [msg 49] pf0,              -- no newer set: accepted
    .rotate [] wsB pf0 false,           -- first rotation (epoch 2)
    .approve [msg 50] pf0,              -- one newer set, retention 1: the first set is still honoured
    .rotate [] wsC pfB false,           -- second rotation (epoch 3)
    .approve [msg 51] pf0,              -- two newer sets: refused
    .rotate [owner0] wsD pf0 true,      -- … also on the bypass path, with the operator's authorisation
    .approve [msg 51] pfB ]             -- the second set now has one newer set: honoured

/-- all hypotheses of `after_k_rotations` (and of `retained_iff`, `approve_retained_iff`, `nonbypass_needs_latest`,
    `bypass_needs_retained`) hold on a concrete history with retention 1, and both sides of the equivalence occur: after one
    rotation a proof by the first set is accepted (0 + 1 ≤ 1), after two it is refused (0 + 2 > 1) — on the approval path
    and on the bypass-rotation path alike -/
theorem after_k_rotations_nonvacuous :
    ∃ w0, constructed H0 owner0 owner0 [1] 0 1 [ws0] 5 = some w0 ∧
      GInv H0 w0.st ∧
      -- the signature hypothesis, at k = 1 and at k = 2
      validateSignaturesLoop V0 (messageHashToSign H0 (run H0 V0 w0 (opsK.take 2)).1.st.domain
          (signersHash H0 pf0.weightedSigners) (approveDataHash H0 [msg 50])) pf0.threshold pf0.signers 0 = .ok true ∧
      validateSignaturesLoop V0 (messageHashToSign H0 (run H0 V0 w0 (opsK.take 4)).1.st.domain
          (signersHash H0 pf0.weightedSigners) (approveDataHash H0 [msg 51])) pf0.threshold pf0.signers 0 = .ok true ∧
      -- k = 1: accepted (left-hand side of the equivalence, and on the approval path)
      (∃ b, validateProof H0 V0 (run H0 V0 w0 (opsK.take 2)).1.st (approveDataHash H0 [msg 50]) pf0 = .ok b) ∧
      (∃ r, approveMessages H0 V0 (run H0 V0 w0 (opsK.take 2)).1.st [msg 50] pf0 = .ok r) ∧
      -- `nonbypass_needs_latest` / `bypass_needs_retained`: successful rotations of both kinds
      (∃ r, rotateSigners H0 V0 (run H0 V0 w0 (opsK.take 3)).1.st [] wsC pfB false 5 = .ok r) ∧
      (∃ r, rotateSigners H0 V0 (run H0 V0 w0 (opsK.take 3)).1.st [owner0] wsC pf0 true 5 = .ok r) ∧
      -- installed at epoch 1, retention 1
      w0.st.epochByHash (signersHash H0 pf0.weightedSigners) = some 1 ∧ 1 ≤ w0.st.epoch ∧ w0.st.retention = 1 ∧
      (run H0 V0 w0 opsK).2.map gwErr =
        [none, none, none, none, some .outdatedSigners, some .outdatedSigners, none] ∧
      -- k = 1: right-hand side
      rotations (opsK.take 2) (run H0 V0 w0 (opsK.take 2)).2 = 1 ∧
      (w0.st.epoch - 1) + rotations (opsK.take 2) (run H0 V0 w0 (opsK.take 2)).2 ≤ w0.st.retention ∧
      -- k = 2: refused, both sides false
      rotations (opsK.take 4) (run H0 V0 w0 (opsK.take 4)).2 = 2 ∧
      (validateProof H0 V0 (run H0 V0 w0 (opsK.take 4)).1.st (approveDataHash H0 [msg 51]) pf0).isOk = false ∧
      ¬ ((w0.st.epoch - 1) + rotations (opsK.take 4) (run H0 V0 w0 (opsK.take 4)).2 ≤ w0.st.retention) ∧
      -- `retained_iff` at the world after two rotations: installed at 1, epoch 3
      (run H0 V0 w0 (opsK.take 4)).1.st.epochByHash (signersHash H0 pf0.weightedSigners) = some 1 ∧
      (run H0 V0 w0 (opsK.take 4)).1.st.epoch = 3 := by
  refine exists_of_isSome (by decide +kernel)
    ⟨(Proofs.C03.GInv_auth H0).constructed (fun _ _ => trivial) (Option.some_get _).symm, ?_⟩
  decide +kernel

end NonVacuity

end Cgp.Props.C08
