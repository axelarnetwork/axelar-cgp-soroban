/-
  Property C09 — rotations are rate-limited unless the operator bypasses the delay.
-/
import Cgp.Props.C03
namespace Cgp.Props.C09
open Cgp.Xdr Cgp.Gateway

variable (H : Bytes → Bytes) {σ : Type} (V : Bytes → Bytes → σ → Bool)

/-- a non-bypass rotation succeeds only if at least `minDelay` has elapsed since the recorded last rotation -/
theorem nonbypass_delay (st : State) (auths : List Addr) (ws : WSigners) (proof : Proof σ) (now : Nat)
    (r : State × List Event) (h : rotateSigners H V st auths ws proof false now = .ok r) :
    st.lastRot.getD 0 ≤ now ∧ st.minDelay ≤ now - st.lastRot.getD 0 :=
  (rotateSigners_ok_iff.mp h).2.2.2.1 rfl

/-- a bypass rotation needs the current operator's authorisation -/
theorem bypass_needs_operator (st : State) (auths : List Addr) (ws : WSigners) (proof : Proof σ) (now : Nat)
    (r : State × List Event) (h : rotateSigners H V st auths ws proof true now = .ok r) :
    st.operator ∈ auths :=
  (rotateSigners_ok_iff.mp h).1 rfl

/-- a bypass rotation ignores the clock entirely: its outcome's success does not depend on `now` -/
theorem bypass_ignores_delay (st : State) (auths : List Addr) (ws : WSigners) (proof : Proof σ) (now now' : Nat) :
    (∃ r, rotateSigners H V st auths ws proof true now = .ok r) ↔
    (∃ r, rotateSigners H V st auths ws proof true now' = .ok r) := by
  -- with `bypass = true` the acceptance condition does not mention the time
  rw [Cgp.Props.C03.rotate_ok_iff, Cgp.Props.C03.rotate_ok_iff]
  simp

/-- every successful rotation, bypass or not, restarts the clock at the current time -/
theorem success_restarts_clock (st st' : State) (auths : List Addr) (ws : WSigners) (proof : Proof σ) (bypass : Bool)
    (now : Nat) (evs : List Event) (h : rotateSigners H V st auths ws proof bypass now = .ok (st', evs)) :
    st'.lastRot = some now :=
  (Cgp.Props.C03.rotate_effect H V st st' auths ws proof bypass now evs h).2.2.2.1

/-- deployment counts as a rotation: after construction the clock reads the construction time -/
theorem construct_starts_clock (owner operator : Addr) (domain : Bytes) (minDelay retention : Nat) (sets : List WSigners)
    (now : Nat) (st : State) (evs : List Event)
    (h : construct H owner operator domain minDelay retention sets now = .ok (st, evs)) :
    st.lastRot = some now ∧ st.minDelay = minDelay := by
  obtain ⟨hp, _, _, rfl⟩ := construct_induction H (P := fun st => st.minDelay = minDelay) h rfl (fun _ _ _ _ _ h => h)
  exact ⟨rfl, hp⟩

/-- the time of the most recent successful rotation in a history (or `t0` if none) -/
def lastSuccess (t0 now0 : Nat) : List (Op σ) → List Obs → Nat × Nat   -- (last success time, current clock)
  | (.rotate _ _ _ _) :: ops, (.ok _) :: os => lastSuccess now0 now0 ops os
  | (.setTime t) :: ops, _ :: os => lastSuccess t0 t ops os
  | _ :: ops, _ :: os => lastSuccess t0 now0 ops os
  | _, _ => (t0, now0)

theorem lastSuccess_err (t0 n : Nat) (op : Op σ) (hop : ∀ t, op ≠ .setTime t) (ops : List (Op σ)) (e : Err)
    (os : List Obs) : lastSuccess t0 n (op :: ops) (.err e :: os) = lastSuccess t0 n ops os := by
  cases op with
  | setTime t => exact absurd rfl (hop t)
  | _ => rfl

/-- **history invariant**: the recorded clock always equals the time of the most recent successful rotation of any
    kind (deployment counting as one); failed rotations, approvals, and everything else never move it. -/
theorem clock_is_last_success (w : World) (ops : List (Op σ)) (t0 : Nat) (h0 : w.st.lastRot = some t0) :
    (run H V w ops).1.st.lastRot = some (lastSuccess t0 w.now ops (run H V w ops).2).1 ∧
    (run H V w ops).1.now = (lastSuccess t0 w.now ops (run H V w ops).2).2 ∧
    (run H V w ops).1.st.minDelay = w.st.minDelay := by
  induction ops generalizing w t0 with
  | nil => exact ⟨h0, rfl, rfl⟩
  | cons op ops ih =>
    rw [run_cons]
    have h := step_effect H V w op
    generalize step H V w op = r at h ⊢
    -- in each case `lastSuccess` unfolds by computation to what the induction hypothesis says of the next world
    cases h with
    | refused op e hop => rw [lastSuccess_err _ _ _ hop]; exact ih w t0 h0
    | rotate => exact ih _ w.now rfl
    | _ => exact ih _ t0 h0

/-- the operator role changes only through a transfer authorised by the current operator -/
theorem operator_step (w : World) (op : Op σ) :
    (step H V w op).1.st.operator = w.st.operator ∨
    (∃ auths new, op = .transferOperatorship auths new ∧ w.st.operator ∈ auths ∧ (step H V w op).1.st.operator = new) := by
  have h := step_effect H V w op
  generalize step H V w op = r at h ⊢
  cases h with
  | transferOperatorship ha => exact .inr ⟨_, _, rfl, ha, rfl⟩
  | _ => exact Or.inl rfl

/-- the two administrative entry points every upgradable contract has — `upgrade` (here: to the same code) and `migrate` —
    leave the rotation clock, the configured delay and the ledger clock exactly as they were, whoever calls them and whether
    they succeed or not: no amount of upgrading re-opens or shortens a rate-limit window (the history theorems above range
    over these two operations as well) -/
theorem admin_steps_keep_clock (w : World) (auths : List Addr) :
    (step H V w (.upgrade auths)).1.st.lastRot = w.st.lastRot ∧ (step H V w (.upgrade auths)).1.st.minDelay = w.st.minDelay ∧
    (step H V w (.upgrade auths)).1.now = w.now ∧
    (step H V w (.migrate auths)).1.st.lastRot = w.st.lastRot ∧ (step H V w (.migrate auths)).1.st.minDelay = w.st.minDelay ∧
    (step H V w (.migrate auths)).1.now = w.now := by
  obtain ⟨b, hb⟩ := step_admin_fst H V w (.upgrade auths) (.inl ⟨_, rfl⟩)
  obtain ⟨c, hc⟩ := step_admin_fst H V w (.migrate auths) (.inr ⟨_, rfl⟩)
  rw [hb, hc]
  exact ⟨rfl, rfl, rfl, rfl, rfl, rfl⟩

section NonVacuity
open Cgp.Toy

/-- minimum delay 10, constructed at time 100 -/
def opsT : List (Op Unit) :=
  [ .setTime 109, .rotate [] wsB pf0 false,            -- 9 after deployment: refused
    .setTime 110, .rotate [] wsB pf0 false,            -- 10 after: accepted, the clock reads 110
    .setTime 113, .rotate [] wsC pfB false,            -- inside the window: refused
    .rotate [owner0] wsC pfB true,                     -- bypass authorised by someone who is not the operator: refused
    .rotate [operator0] wsC pfB true,                  -- operator bypass inside the window: accepted, the clock reads 113
    .setTime 122, .rotate [] wsD pfC false,            -- 12 after the last non-bypass rotation but 9 after the bypass: refused
    .setTime 123, .rotate [] wsD pfC false ]           -- 10 after the bypass: accepted

/-- the hypotheses of `clock_is_last_success`, `nonbypass_delay`, `bypass_needs_operator`, `success_restarts_clock` and
    `construct_starts_clock` are satisfiable, and the delay is really enforced: with minimum delay 10, a rotation 9 after
    deployment is refused and one 10 after is accepted; an operator bypass inside the window is accepted (not without the
    operator) and restarts the clock, so that a non-bypass rotation 9 after THE BYPASS is refused and one 10 after is accepted. -/
theorem clock_history_nonvacuous :
    ∃ w0, constructed H0 owner0 operator0 [1] 10 5 [ws0] 100 = some w0 ∧
      (∃ st evs, construct H0 owner0 operator0 [1] 10 5 [ws0] 100 = .ok (st, evs)) ∧
      -- `nonbypass_delay`: a successful non-bypass rotation (at 110, last 100)
      (∃ r, rotateSigners H0 V0 (run H0 V0 w0 (opsT.take 3)).1.st [] wsB pf0 false 110 = .ok r) ∧
      -- `bypass_needs_operator` / `success_restarts_clock`: a successful bypass rotation (at 113, last 110)
      (∃ st' evs, rotateSigners H0 V0 (run H0 V0 w0 (opsT.take 7)).1.st [operator0] wsC pfB true 113 = .ok (st', evs)) ∧
      -- `clock_is_last_success`: its hypothesis, and both sides of its equations along the history
      w0.st.lastRot = some 100 ∧ w0.st.minDelay = 10 ∧ w0.now = 100 ∧
      (run H0 V0 w0 opsT).2.map gwErr =
        [none, some .insufficientRotationDelay, none, none, none, some .insufficientRotationDelay, some .unauthorized, none,
         none, some .insufficientRotationDelay, none, none] ∧
      [2, 4, 6, 8, 10, 12].map (fun n => (run H0 V0 w0 (opsT.take n)).1.st.lastRot) =
        [some 100, some 110, some 110, some 113, some 113, some 123] ∧
      [2, 4, 6, 8, 10, 12].map (fun n => lastSuccess 100 w0.now (opsT.take n) (run H0 V0 w0 (opsT.take n)).2) =
        [(100, 109), (110, 110), (110, 113), (113, 113), (113, 122), (123, 123)] ∧
      (run H0 V0 w0 opsT).1.st.epoch = 4 ∧ (run H0 V0 w0 opsT).1.st.minDelay = 10 := by
  refine exists_of_isSome (by decide +kernel) ?_
  decide +kernel

/-- a history with the administrative steps INSIDE a delay window (minimum delay 10, deployed at 100): a migration without an
    open window is refused, the operator cannot upgrade, the owner can, the operator cannot migrate, the owner can — and the
    rotation attempted right afterwards (at 105) is still refused for the delay, while the same rotation at 110 goes through -/
theorem migration_history_nonvacuous :
    ∃ w0, constructed H0 owner0 operator0 [1] 10 5 [ws0] 100 = some w0 ∧
      (run H0 V0 w0 [.setTime 105, .migrate [owner0], .upgrade [operator0], .upgrade [owner0], .migrate [operator0],
          .migrate [owner0], .rotate [] wsB pf0 false, .setTime 110, .rotate [] wsB pf0 false]).2.map gwErr =
        [none, some .migrationNotAllowed, some .unauthorized, none, some .unauthorized, none,
         some .insufficientRotationDelay, none, none] := by
  refine exists_of_isSome (by decide +kernel) ?_
  decide +kernel

end NonVacuity

end Cgp.Props.C09
