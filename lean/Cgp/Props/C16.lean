/-
  Property C16 — executable-interface apps act only on approved messages, exactly once.
-/
import Cgp.Executable
import Cgp.Props.C01
namespace Cgp.Props.C16
open Cgp.Xdr Cgp.Gateway Cgp.Executable
open Cgp.Proofs.C02
open Cgp.Proofs.C03H (AInv AInv_step AInv_auth)

variable (H : Bytes → Bytes) {σ : Type} (V : Bytes → Bytes → σ → Bool)

/-- the message an application `app` claims to be executing when it is handed (chain, id, source address, payload) -/
def claimed (app : Addr) (c i sa p : Bytes) : Message :=
  { sourceChain := c, messageId := i, sourceAddress := sa, contract := app, payloadHash := H p }

theorem appExecute_eq (gw : State) (app : Addr) (eff : Effects) (c i sa p : Bytes) :
    appExecute H gw app eff c i sa p =
      if gw.approvals c i = .approved (messageHash H (claimed H app c i sa p)) then
        .ok (consumed gw c i, eff ++ [(c, i, sa, p)], [evExecuted (claimed H app c i sa p)])
      else .error .notApproved := by
  unfold appExecute claimed
  rw [validateMessage_eq (List.mem_singleton.mpr rfl)]
  by_cases hc : gw.approvals c i = .approved (messageHash H ⟨c, i, sa, app, H p⟩)
  · rw [if_pos hc, if_pos hc]
  · rw [if_neg hc, if_neg hc]

/-- an application performs its effect iff the gateway holds an unexecuted approval naming that application, the same
    chain, id and source address, and the hash of exactly the delivered payload -/
theorem app_effect_iff (gw : State) (app : Addr) (eff : Effects) (c i sa p : Bytes) :
    (∃ r, appExecute H gw app eff c i sa p = .ok r) ↔
      gw.approvals c i = .approved (messageHash H (claimed H app c i sa p)) := by
  rw [appExecute_eq]
  split
  · exact iff_of_true ⟨_, rfl⟩ ‹_›
  · exact iff_of_false (by rintro ⟨_, ⟨⟩⟩) ‹_›

/-- exact outcome of a successful delivery: one new effect, the approval consumed, one gateway event, nothing else touched -/
theorem app_effect_exact (gw gw' : State) (app : Addr) (eff eff' : Effects) (c i sa p : Bytes) (evs : List Event)
    (h : appExecute H gw app eff c i sa p = .ok (gw', eff', evs)) :
    eff' = eff ++ [(c, i, sa, p)] ∧ gw'.approvals c i = .executed ∧
    (∀ c' i', ¬ (c' = c ∧ i' = i) → gw'.approvals c' i' = gw.approvals c' i') ∧
    evs = [evExecuted (claimed H app c i sa p)] := by
  rw [appExecute_eq] at h
  split at h
  · cases h
    exact ⟨rfl, consumed_self .., fun c' i' hne => consumed_other hne, rfl⟩
  · cases h

/-- otherwise the delivery fails (and, being a failed invocation, has no effect at all) -/
theorem app_rejected (gw : State) (app : Addr) (eff : Effects) (c i sa p : Bytes)
    (h : gw.approvals c i ≠ .approved (messageHash H (claimed H app c i sa p))) :
    ∃ e, appExecute H gw app eff c i sa p = .error e := by
  rw [appExecute_eq, if_neg h]
  exact ⟨_, rfl⟩

/-- a delivered message cannot be delivered again — to any application, with any source address or payload -/
theorem app_effect_once (gw gw' : State) (app : Addr) (eff eff' : Effects) (c i sa p : Bytes) (evs : List Event)
    (h : appExecute H gw app eff c i sa p = .ok (gw', eff', evs))
    (app2 : Addr) (eff2 : Effects) (sa2 p2 : Bytes) :
    ∃ e, appExecute H gw' app2 eff2 c i sa2 p2 = .error e := by
  refine app_rejected H gw' app2 eff2 c i sa2 p2 fun hh => ?_
  cases (app_effect_exact H gw gw' app eff eff' c i sa p evs h).2.1.symm.trans hh

/-- the effect binds every field of what was approved: if message `m` is the recorded approval and the application acts,
    then the application is `m`'s destination, the source address is `m`'s and the DELIVERED payload hashes to `m`'s
    payload hash — or a hash collision is exhibited -/
theorem app_effect_binds (gw : State) (m : Message) (app : Addr) (eff : Effects) (sa p : Bytes)
    (hm : m.Typed) (hc : (claimed H app m.sourceChain m.messageId sa p).Typed)
    (hrec : gw.approvals m.sourceChain m.messageId = .approved (messageHash H m))
    (h : ∃ r, appExecute H gw app eff m.sourceChain m.messageId sa p = .ok r) :
    (app = m.contract ∧ sa = m.sourceAddress ∧ H p = m.payloadHash) ∨ Collision H := by
  have hr := hrec.symm.trans ((app_effect_iff H gw app eff m.sourceChain m.messageId sa p).mp h)
  exact (messageHash_binds H hm hc (Approval.approved.inj hr)).imp_left fun he =>
    ⟨congrArg Message.contract he.symm, congrArg Message.sourceAddress he.symm, congrArg Message.payloadHash he.symm⟩

/-! ### histories: gateway operations interleaved with deliveries to arbitrary applications -/

inductive XOp (σ : Type) where
  | gw (op : Op σ)
  | deliver (app : Addr) (c i sa p : Bytes)

structure XWorld where
  w : World
  eff : Addr → Effects

def xstep (x : XWorld) : XOp σ → XWorld × Bool      -- Bool: did a delivery take effect
  | .gw op => ({ x with w := (step H V x.w op).1 }, false)
  | .deliver app c i sa p =>
    match appExecute H x.w.st app (x.eff app) c i sa p with
    | .ok (gw', eff', _) => ({ w := { x.w with st := gw' }, eff := fun a => if a = app then eff' else x.eff a }, true)
    | .error _ => (x, false)

def xrun (x : XWorld) : List (XOp σ) → XWorld × List Bool
  | [] => (x, [])
  | op :: ops =>
    let (x', b) := xstep H V x op
    let (x'', bs) := xrun x' ops
    (x'', b :: bs)

/-- effective deliveries of message (c, i) in a history -/
def deliveries (c i : Bytes) : List (XOp σ) → List Bool → Nat
  | (.deliver _ c' i' _ _) :: ops, true :: bs => deliveries c i ops bs + (if c' = c ∧ i' = i then 1 else 0)
  | _ :: ops, _ :: bs => deliveries c i ops bs
  | _, _ => 0

theorem xstep_deliver (x : XWorld) (app : Addr) (c i sa p : Bytes) :
    xstep H V x (.deliver app c i sa p) =
      if x.w.st.approvals c i = .approved (messageHash H (claimed H app c i sa p)) then
        ({ w := { x.w with st := consumed x.w.st c i },
           eff := fun a => if a = app then x.eff app ++ [(c, i, sa, p)] else x.eff a }, true)
      else (x, false) := by
  simp only [xstep]
  rw [appExecute_eq]
  by_cases hap : x.w.st.approvals c i = .approved (messageHash H (claimed H app c i sa p))
  · rw [if_pos hap, if_pos hap]
  · rw [if_neg hap, if_neg hap]

theorem xstep_deliver_true (x : XWorld) (app : Addr) (c i sa p : Bytes)
    (h : (xstep H V x (.deliver app c i sa p)).2 = true) :
    x.w.st.approvals c i = .approved (messageHash H (claimed H app c i sa p)) := by
  rw [xstep_deliver] at h
  split at h
  · assumption
  · cases h

/-- the gateway call behind an operation: a delivery is `validate_message` called by the application, authorised as itself,
    with the hash of the delivered payload -/
def XOp.toGw : XOp σ → Op σ
  | .gw op => op
  | .deliver app c i sa p => .validateMessage [app] app c i sa (H p)

theorem xstep_w (x : XWorld) (op : XOp σ) : (xstep H V x op).1.w = (step H V x.w (op.toGw H)).1 := by
  cases op with
  | gw op => rfl
  | deliver app c i sa p =>
    -- both sides branch on the same `validateMessage` call
    simp only [xstep, appExecute, XOp.toGw, step, validateMessage_eq (List.mem_singleton.mpr rfl)]
    by_cases hr : x.w.st.approvals c i = .approved (messageHash H ⟨c, i, sa, app, H p⟩)
    · rw [if_pos hr]
    · rw [if_neg hr]

theorem deliveries_cons (c i : Bytes) (op : XOp σ) (ops : List (XOp σ)) (b : Bool) (bs : List Bool) :
    deliveries c i (op :: ops) (b :: bs) = deliveries c i ops bs + deliveries c i [op] [b] := by
  cases op with
  | gw op => rfl
  | deliver app c' i' sa p =>
    cases b with
    | true => exact congrArg _ (Nat.zero_add _).symm
    | false => rfl

theorem delivery_step (c i : Bytes) (x : XWorld) (op : XOp σ) (hh : deliveries c i [op] [(xstep H V x op).2] ≠ 0) :
    ¬ x.w.st.approvals c i = .executed ∧ (xstep H V x op).1.w.st.approvals c i = .executed ∧
      deliveries c i [op] [(xstep H V x op).2] = 1 := by
  cases op with
  | gw op => exact absurd rfl hh
  | deliver app c' i' sa p =>
    rw [xstep_deliver] at hh ⊢
    split at hh
    · rename_i hap
      rw [if_pos hap]
      by_cases hci : c' = c ∧ i' = i
      · obtain ⟨rfl, rfl⟩ := hci
        exact ⟨fun h0 => Approval.noConfusion (h0.symm.trans hap), consumed_self ..,
          (Nat.zero_add _).trans (if_pos ⟨rfl, rfl⟩)⟩
      · exact absurd ((Nat.zero_add _).trans (if_neg hci)) hh
    · exact absurd rfl hh

theorem deliveries_bound (x : XWorld) (ops : List (XOp σ)) (c i : Bytes) :
    deliveries c i ops (xrun H V x ops).2 ≤ 1 ∧
    (x.w.st.approvals c i = .executed → deliveries c i ops (xrun H V x ops).2 = 0) :=
  Run.count_le_one (fun x op => (xstep H V x op).1) (fun x ops => deliveries c i ops (xrun H V x ops).2)
    (fun _ => rfl) (fun _ op ops => deliveries_cons c i op ops _ _) (fun x => x.w.st.approvals c i = .executed)
    (fun _ => True) (fun x op _ h => xstep_w H V x op ▸ step_executed H V x.w _ c i h) (delivery_step H V c i) ops x
    (fun _ _ => trivial)

/-- **exactly once over every history**: whatever the gateway operations (approvals, re-approvals of the same id with the
    same or other content, rotations, direct consumption attempts) and deliveries, each (chain, id) takes effect at most once
    across ALL applications -/
theorem effect_at_most_once (x : XWorld) (ops : List (XOp σ)) (c i : Bytes) :
    deliveries c i ops (xrun H V x ops).2 ≤ 1 :=
  (deliveries_bound H V x ops c i).1

/-- and never, if the message was already executed -/
theorem no_effect_after_executed (x : XWorld) (ops : List (XOp σ)) (c i : Bytes)
    (h0 : x.w.st.approvals c i = .executed) :
    deliveries c i ops (xrun H V x ops).2 = 0 :=
  (deliveries_bound H V x ops c i).2 h0

def xtrace (x : XWorld) : List (XOp σ) → List (XWorld × XOp σ × Bool)
  | [] => []
  | op :: ops => (x, op, (xstep H V x op).2) :: xtrace (xstep H V x op).1 ops

def XOp.Typed : XOp σ → Prop
  | .gw op => op.Typed
  | .deliver .. => True

theorem xstep_inv (x : XWorld) (op : XOp σ) (hty : op.Typed) (hinv : AInv H x.w.st) : AInv H (xstep H V x op).1.w.st :=
  xstep_w H V x op ▸ AInv_step H V x.w _ (by cases op <;> exact hty) hinv

theorem xstep_approved (x : XWorld) (op : XOp σ) (hty : op.Typed) (hinv : AInv H x.w.st) (c i h : Bytes)
    (h1 : (xstep H V x op).1.w.st.approvals c i = .approved h) :
    x.w.st.approvals c i = .approved h ∨
    (∃ ms proof m, op = .gw (.approve ms proof) ∧ m ∈ ms ∧ m.sourceChain = c ∧ m.messageId = i ∧
        messageHash H m = h ∧ ProofValid H V x.w.st (approveDataHash H ms) proof) ∨ Collision H := by
  rw [xstep_w] at h1
  refine (Cgp.Props.C01.step_approved H V x.w _ (by cases op <;> exact hty) hinv c i h h1).imp_right (.imp_left ?_)
  rintro ⟨ms, proof, evs, m, hop, _, hr⟩
  cases op with
  | gw op => exact ⟨ms, proof, m, congrArg _ hop, hr⟩
  | deliver => cases hop

/-- **every effect of every application was signed**: in every history that starts from a freshly constructed gateway
    (typed sets and submissions), each delivery that takes effect at an application is preceded by a successful
    `approve_messages` call whose batch contains a message with this chain and id and the very message hash of what the
    application claims to execute (so, by C01's `messageHash_binds`, that very message: same source address, this application as
    destination, hash of exactly this payload), under a proof valid at that moment (C01's `ProofValid`) — or a hash
    collision is exhibited. -/
theorem app_effect_was_signed (owner operator : Addr) (domain : Bytes) (minDelay retention : Nat) (sets : List WSigners)
    (now : Nat) (x0 : XWorld) (hsets : ∀ ws ∈ sets, ws.Typed)
    (hc : constructed H owner operator domain minDelay retention sets now = some x0.w)
    (ops : List (XOp σ)) (hty : ∀ op ∈ ops, op.Typed)
    (pre post : List (XWorld × XOp σ × Bool)) (x : XWorld) (app : Addr) (c i sa p : Bytes)
    (ht : xtrace H V x0 ops = pre ++ (x, .deliver app c i sa p, true) :: post) :
    (∃ xa ms proof b m, (xa, XOp.gw (.approve ms proof), b) ∈ pre ∧ m ∈ ms ∧
        m.sourceChain = c ∧ m.messageId = i ∧ messageHash H m = messageHash H (claimed H app c i sa p) ∧
        ProofValid H V xa.w.st (approveDataHash H ms) proof)
    ∨ Collision H := by
  rcases Run.origin_at (fun x op => (xstep H V x op).1) (fun x op => (xstep H V x op).2) (xtrace H V) (fun _ => rfl)
      (fun _ _ _ => rfl) (I := fun x => AInv H x.w.st) (T := XOp.Typed) (C := Collision H)
      (F := fun x => x.w.st.approvals c i = .approved (messageHash H (claimed H app c i sa p)))
      (G := fun e => ∃ ms proof m, e.2.1 = .gw (.approve ms proof) ∧ m ∈ ms ∧ m.sourceChain = c ∧ m.messageId = i ∧
        messageHash H m = messageHash H (claimed H app c i sa p) ∧ ProofValid H V e.1.w.st (approveDataHash H ms) proof)
      (xstep_inv H V) (fun x op hop hinv => xstep_approved H V x op hop hinv c i _) ops x0
      ((AInv_auth H).constructed hsets hc) hty pre post _ ht
      (xstep_deliver_true H V x app c i sa p)
    with h | ⟨⟨xa, op, b⟩, hx, ms, proof, m, rfl, hr⟩ | h
  · rw [Gateway.constructed_no_approvals H hc c i] at h; cases h
  · exact Or.inl ⟨xa, ms, proof, b, m, hx, hr⟩
  · exact Or.inr h

section NonVacuity
open Cgp.Toy

def app0 : Addr := ⟨true, List.replicate 32 9⟩
def mA : Message := ⟨[97], [49], [98], app0, H0 [1, 2, 3]⟩

/-- the hypotheses of `app_effect_was_signed` are satisfiable, and exactly-once is visible: on a freshly constructed gateway
    a signed approval, then a delivery that takes effect, then the same delivery again, which does not -/
theorem app_effect_was_signed_nonvacuous :
    ∃ g0, constructed H0 owner0 owner0 [1] 0 0 [ws0] 5 = some g0 ∧
      ((xtrace H0 V0 ⟨g0, fun _ => []⟩
          [.gw (.approve [mA] pf0), .deliver app0 [97] [49] [98] [1, 2, 3], .deliver app0 [97] [49] [98] [1, 2, 3]]).map (·.2.2))
        = [false, true, false] := by
  refine exists_of_isSome (by decide +kernel) ?_
  decide +kernel

end NonVacuity

end Cgp.Props.C16
