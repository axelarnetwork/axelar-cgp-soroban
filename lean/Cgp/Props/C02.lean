/-
  Property C02 — each message is approved once and executed once, only by its destination.
-/
import Cgp.Proofs.C02
import Cgp.Proofs.Sc
import Cgp.Toy
namespace Cgp.Props.C02
open Cgp.Xdr Cgp.Gateway
open Cgp.Proofs.C02

variable (H : Bytes → Bytes) {σ : Type} (V : Bytes → Bytes → σ → Bool)

/-- one operation never moves a message's status backwards … -/
theorem status_monotone_step (w : World) (op : Op σ) (c i : Bytes) :
    (w.st.approvals c i).rank ≤ ((step H V w op).1.st.approvals c i).rank :=
  (step_adv H V w op c i).rank

/-- … so over every history the status only moves not-approved → approved → executed -/
theorem status_monotone (w : World) (ops : List (Op σ)) (c i : Bytes) :
    (w.st.approvals c i).rank ≤ ((run H V w ops).1.st.approvals c i).rank :=
  (run_adv H V w ops c i).rank

/-- the content hash recorded by the first approval never changes: it stays, or the message becomes executed -/
theorem approved_content_stable (w : World) (ops : List (Op σ)) (c i h : Bytes)
    (h0 : w.st.approvals c i = .approved h) :
    (run H V w ops).1.st.approvals c i = .approved h ∨ (run H V w ops).1.st.approvals c i = .executed := by
  rcases run_adv H V w ops c i with h1 | h1 | ⟨_, h1⟩
  · exact Or.inl (h1 ▸ h0)
  · rw [h0] at h1; cases h1
  · exact Or.inr h1

/-- executed is final -/
theorem executed_final (w : World) (ops : List (Op σ)) (c i : Bytes) (h0 : w.st.approvals c i = .executed) :
    (run H V w ops).1.st.approvals c i = .executed :=
  (run_adv H V w ops c i).executed h0

/-- re-submitting an approval for a known id changes nothing about it and emits no event for it -/
theorem reapproval_inert (st : State) (ms : List Message) (c i : Bytes)
    (hk : st.approvals c i ≠ .notApproved) :
    ((approveLoop H ms st).1.approvals c i = st.approvals c i) ∧
    (∀ ev ∈ (approveLoop H ms st).2, ∀ m : Message, ev.topics = (evApproved m).topics →
        ¬ (m.sourceChain = c ∧ m.messageId = i)) := by
  refine ⟨approveLoop_known_key H ms st c i hk, fun ev hev m htop ⟨hc, hi⟩ => ?_⟩
  obtain ⟨m', _, hst, rfl⟩ := approveLoop_events H ms st ev hev
  -- the second topic is the message's XDR form, which determines the message
  cases Message.toSc_inj _ _ (List.cons.inj (List.cons.inj htop).2).1
  exact hk (hc ▸ hi ▸ hst)

/-- the approval loop emits exactly one event per message whose key was fresh at its turn, and records its hash -/
theorem approval_of_fresh (st : State) (m : Message) (rest : List Message)
    (hk : st.approvals m.sourceChain m.messageId = .notApproved) :
    (approveLoop H (m :: rest) st).2.length = (approveLoop H rest
        { st with approvals := fun c i => if c = m.sourceChain ∧ i = m.messageId then .approved (messageHash H m) else st.approvals c i }).2.length + 1 ∧
    (approveLoop H (m :: rest) st).1.approvals m.sourceChain m.messageId = .approved (messageHash H m) := by
  rw [approveLoop_fresh H rest hk]
  have hs := setApproved_self H st m
  exact ⟨rfl, (approveLoop_known_key H rest _ _ _ (by rw [hs]; nofun)).trans hs⟩

/-- consuming succeeds exactly when the caller authorised the call and the stored record is the hash of
    (chain, id, source address, THE CALLER as destination, payload hash) -/
theorem consume_iff (st : State) (auths : List Addr) (caller : Addr) (c i sa ph : Bytes) :
    (∃ st' evs, validateMessage H st auths caller c i sa ph = .ok (st', true, evs)) ↔
      (caller ∈ auths ∧ st.approvals c i =
        .approved (messageHash H { sourceChain := c, messageId := i, sourceAddress := sa, contract := caller, payloadHash := ph })) := by
  constructor
  · rintro ⟨st', evs, h⟩
    obtain ⟨ha, ⟨hr, -⟩ | ⟨-, ⟨⟩⟩⟩ := validateMessage_ok_iff.mp h
    exact ⟨ha, hr⟩
  · exact fun ⟨ha, hr⟩ => ⟨_, _, validateMessage_ok_iff.mpr ⟨ha, .inl ⟨hr, rfl⟩⟩⟩

/-- a successful consumption marks the message executed, touches no other key, and emits exactly one event -/
theorem consume_effect (st st' : State) (auths : List Addr) (caller : Addr) (c i sa ph : Bytes) (evs : List Event)
    (h : validateMessage H st auths caller c i sa ph = .ok (st', true, evs)) :
    st'.approvals c i = .executed ∧ (∀ c' i', ¬ (c' = c ∧ i' = i) → st'.approvals c' i' = st.approvals c' i') ∧
    evs.length = 1 := by
  obtain ⟨-, ⟨-, ⟨⟩⟩ | ⟨-, ⟨⟩⟩⟩ := validateMessage_ok_iff.mp h
  exact ⟨consumed_self .., fun c' i' hne => consumed_other hne, rfl⟩

/-- an unsuccessful consumption attempt (`false` or unauthorised) changes nothing and emits nothing -/
theorem consume_false_inert (st st' : State) (auths : List Addr) (caller : Addr) (c i sa ph : Bytes) (evs : List Event)
    (h : validateMessage H st auths caller c i sa ph = .ok (st', false, evs)) :
    st' = st ∧ evs = [] := by
  obtain ⟨-, ⟨-, ⟨⟩⟩ | ⟨-, ⟨⟩⟩⟩ := validateMessage_ok_iff.mp h
  exact ⟨rfl, rfl⟩

/-- successful consumptions of key (c,i) in a history -/
def consumptions (c i : Bytes) : List (Op σ) → List Obs → Nat
  | (.validateMessage _ _ c' i' _ _) :: ops, (.okBool true _) :: os =>
      consumptions c i ops os + (if c' = c ∧ i' = i then 1 else 0)
  | _ :: ops, _ :: os => consumptions c i ops os
  | _, _ => 0

theorem consumptions_cons (c i : Bytes) (op : Op σ) (ops : List (Op σ)) (o : Obs) (os : List Obs) :
    consumptions c i (op :: ops) (o :: os) = consumptions c i ops os + consumptions c i [op] [o] := by
  cases op with
  | validateMessage auths caller c' i' sa ph =>
    cases o with
    | okBool b evs =>
      cases b with
      | true => exact congrArg _ (Nat.zero_add _).symm
      | false => rfl
    | _ => rfl
  | _ => rfl

/-- the `once` clause of `Run.count_le_one` -/
theorem consumption_step (c i : Bytes) (w : World) (op : Op σ) (hh : consumptions c i [op] [(step H V w op).2] ≠ 0) :
    ¬ w.st.approvals c i = .executed ∧ (step H V w op).1.st.approvals c i = .executed ∧
      consumptions c i [op] [(step H V w op).2] = 1 := by
  have h := step_effect H V w op
  generalize step H V w op = r at h hh ⊢
  cases h with
  | refused op e => exact absurd (by cases op <;> rfl) hh
  | @consume _ _ c' i' _ _ _ hr =>
    by_cases hci : c' = c ∧ i' = i
    · obtain ⟨rfl, rfl⟩ := hci
      exact ⟨fun h0 => Approval.noConfusion (h0.symm.trans hr), consumed_self ..,
        (Nat.zero_add _).trans (if_pos ⟨rfl, rfl⟩)⟩
    · exact absurd ((Nat.zero_add _).trans (if_neg hci)) hh
  | _ => exact absurd rfl hh

theorem consumptions_bound (w : World) (ops : List (Op σ)) (c i : Bytes) :
    consumptions c i ops (run H V w ops).2 ≤ 1 ∧
    (w.st.approvals c i = .executed → consumptions c i ops (run H V w ops).2 = 0) :=
  Run.count_le_one (fun w op => (step H V w op).1) (fun w ops => consumptions c i ops (run H V w ops).2)
    (fun _ => rfl) (fun _ op ops => consumptions_cons c i op ops _ _) (fun w => w.st.approvals c i = .executed)
    (fun _ => True) (fun w op _ => step_executed H V w op c i) (consumption_step H V c i) ops w (fun _ _ => trivial)

/-- **at most once**: in every history, every (chain, id) is consumed successfully at most once -/
theorem consume_at_most_once (w : World) (ops : List (Op σ)) (c i : Bytes) :
    consumptions c i ops (run H V w ops).2 ≤ 1 :=
  (consumptions_bound H V w ops c i).1

/-- and never again once executed -/
theorem no_consume_after_executed (w : World) (ops : List (Op σ)) (c i : Bytes)
    (h0 : w.st.approvals c i = .executed) :
    consumptions c i ops (run H V w ops).2 = 0 :=
  (consumptions_bound H V w ops c i).2 h0

/-- consumption binds every field of the approved message: if message `m` was recorded and a consumption with
    fields (sa, caller, ph) succeeds, those fields are `m`'s — or a hash collision is exhibited -/
theorem consume_binds_fields (st : State) (m : Message) (auths : List Addr) (caller : Addr) (sa ph : Bytes)
    (hm : m.Typed)
    (hc : ({ sourceChain := m.sourceChain, messageId := m.messageId, sourceAddress := sa, contract := caller, payloadHash := ph } : Message).Typed)
    (hrec : st.approvals m.sourceChain m.messageId = .approved (messageHash H m))
    (h : ∃ st' evs, validateMessage H st auths caller m.sourceChain m.messageId sa ph = .ok (st', true, evs)) :
    (sa = m.sourceAddress ∧ caller = m.contract ∧ ph = m.payloadHash) ∨ Collision H := by
  have hr := hrec.symm.trans ((consume_iff H ..).mp h).2
  exact (messageHash_binds H hm hc (Approval.approved.inj hr)).imp_left fun he =>
    ⟨congrArg Message.sourceAddress he.symm, congrArg Message.contract he.symm, congrArg Message.payloadHash he.symm⟩

/-- the queries agree with the stored history -/
theorem queries_agree (st : State) (m : Message) :
    (isMessageApproved H st m = true ↔ st.approvals m.sourceChain m.messageId = .approved (messageHash H m)) ∧
    (isMessageExecuted st m.sourceChain m.messageId = true ↔ st.approvals m.sourceChain m.messageId = .executed) := by
  simp [isMessageApproved, isMessageExecuted]

/-- the storage key the implementation uses (XDR of the struct {message_id, source_chain}) separates
    ids that differ only in how the same characters are split between chain and id -/
def keySc (c i : Bytes) : ScVal :=
  .map (.cons (.sym symMessageId) (.str i) (.cons (.sym symSourceChain) (.str c) .nil))

theorem keys_distinct (c i c' i' : Bytes) (hc : c.length < 256 ^ 4) (hi : i.length < 256 ^ 4)
    (hc' : c'.length < 256 ^ 4) (hi' : i'.length < 256 ^ 4)
    (h : enc (keySc c i) = enc (keySc c' i')) : c = c' ∧ i = i' := by
  have hw : ∀ c i : Bytes, c.length < 256 ^ 4 → i.length < 256 ^ 4 → (keySc c i).WF := fun c i hc hi => by
    simp +decide only [keySc, ScVal.WF, ScPairs.WF, ScPairs.len, hc, hi]
  have := enc_injective _ _ (hw c i hc hi) (hw c' i' hc' hi') h
  simp only [keySc, ScVal.map.injEq, ScPairs.cons.injEq, ScVal.str.injEq, true_and, and_true] at this
  exact ⟨this.2, this.1⟩

/-- the one-step clause of `Run.origin` for `executed_was_consumed` -/
theorem step_executed_new (w : World) (op : Op σ) (c i : Bytes)
    (h1 : (step H V w op).1.st.approvals c i = .executed) :
    w.st.approvals c i = .executed ∨
    (∃ auths caller sa ph evs, op = .validateMessage auths caller c i sa ph ∧
        (step H V w op).2 = .okBool true evs ∧ caller ∈ auths ∧
        w.st.approvals c i = .approved (messageHash H ⟨c, i, sa, caller, ph⟩)) := by
  have h := step_effect H V w op
  generalize step H V w op = r at h h1 ⊢
  cases h with
  | @approve ms =>
    rcases approveLoop_approvals H ms w.st c i with h | ⟨_, _, _, _, _, h⟩
    · exact Or.inl (h ▸ h1)
    · rw [h] at h1; cases h1
  | @consume auths caller c' i' sa ph ha hr =>
    by_cases hci : c = c' ∧ i = i'
    · obtain ⟨rfl, rfl⟩ := hci
      exact Or.inr ⟨auths, caller, sa, ph, _, rfl, rfl, ha, hr⟩
    · exact Or.inl ((consumed_other hci).symm.trans h1)
  | _ => exact Or.inl h1

/-- **every message on record as executed was consumed by its own destination**: start from any successful construction and
    run ANY history; if afterwards (chain, id) is marked executed, then somewhere in that history a `validate_message` call
    returned true for it — made with the authorisation of the very contract it named as caller, at a moment when the gateway
    held an approval of exactly the message (chain, id, source address, that caller, payload hash) it presented. Nobody else's
    call, and no call presenting other content, can have marked it. -/
theorem executed_was_consumed (owner operator : Addr) (domain : Bytes) (minDelay retention : Nat) (sets : List WSigners)
    (now : Nat) (w0 : World)
    (hc : constructed H owner operator domain minDelay retention sets now = some w0)
    (ops : List (Op σ)) (c i : Bytes)
    (hfin : (run H V w0 ops).1.st.approvals c i = .executed) :
    ∃ wa auths caller sa ph evs,
      (wa, Op.validateMessage auths caller c i sa ph, Obs.okBool true evs) ∈ trace H V w0 ops ∧ caller ∈ auths ∧
      wa.st.approvals c i = .approved (messageHash H ⟨c, i, sa, caller, ph⟩) := by
  rcases trace_origin H V (I := fun _ => True) (T := fun _ => True) (C := False)
      (F := fun w => w.st.approvals c i = .executed)
      (G := fun x => ∃ auths caller sa ph evs, x.2.1 = .validateMessage auths caller c i sa ph ∧
        x.2.2 = .okBool true evs ∧ caller ∈ auths ∧ x.1.st.approvals c i = .approved (messageHash H ⟨c, i, sa, caller, ph⟩))
      (fun _ _ _ _ => trivial) (fun w op _ _ h => (step_executed_new H V w op c i h).imp_right Or.inl)
      ops w0 trivial (fun _ _ => trivial) hfin with h | ⟨⟨wa, op, o⟩, hx, auths, caller, sa, ph, evs, rfl, rfl, hr⟩ | h
  · rw [Gateway.constructed_no_approvals H hc c i] at h; cases h
  · exact ⟨wa, auths, caller, sa, ph, evs, hx, hr⟩
  · exact h.elim

/-- `upgrade` (to the same code) and `migrate` never touch an approval record, whoever calls them and whether they succeed or
    not (the history theorems above range over these two operations as well) -/
theorem admin_steps_keep_approvals (w : World) (auths : List Addr) :
    (step H V w (.upgrade auths)).1.st.approvals = w.st.approvals ∧ (step H V w (.migrate auths)).1.st.approvals = w.st.approvals := by
  obtain ⟨b, hb⟩ := step_admin_fst H V w (.upgrade auths) (.inl ⟨_, rfl⟩)
  obtain ⟨c, hc⟩ := step_admin_fst H V w (.migrate auths) (.inr ⟨_, rfl⟩)
  rw [hb, hc]
  exact ⟨rfl, rfl⟩

section NonVacuity
open Cgp.Toy

def dest0 : Addr := ⟨true, List.replicate 32 9⟩
def other0 : Addr := ⟨true, List.replicate 32 10⟩
/-- the message that gets approved … -/
def mA : Message := ⟨[97], [49], [98], dest0, List.replicate 32 3⟩
/-- … and one with the same (chain, id) but other content -/
def mB : Message := ⟨[97], [49], [99], dest0, List.replicate 32 4⟩
def opsC : List (Op Unit) :=
  [ .approve [mA] pf0,                                                         -- recorded, one event
    .validateMessage [] dest0 [97] [49] [98] (List.replicate 32 3),            -- no authorisation of the caller: error
    .validateMessage [other0] other0 [97] [49] [98] (List.replicate 32 3),     -- not the destination: false
    .validateMessage [dest0] dest0 [97] [49] [98] (List.replicate 32 4),       -- other payload hash: false
    .approve [mB] pf0,                                                         -- re-approval with other content: inert, no event
    .validateMessage [dest0] dest0 [97] [49] [98] (List.replicate 32 3),       -- the destination, its authorisation: true
    .validateMessage [dest0] dest0 [97] [49] [98] (List.replicate 32 3),       -- again: false
    .approve [mB] pf0,                                                         -- inert
    .validateMessage [dest0] dest0 [97] [49] [99] (List.replicate 32 4) ]      -- the other content was never recorded: false

instance (st : State) (auths : List Addr) (caller : Addr) (c i sa ph : Bytes) :
    Decidable (∃ st' evs, validateMessage H st auths caller c i sa ph = .ok (st', true, evs)) :=
  decidable_of_iff _ (consume_iff H st auths caller c i sa ph).symm

/-- `consume_at_most_once`, `approved_content_stable` and `consume_binds_fields` speak about histories that exist: on a freshly
    constructed gateway a message is approved, consumption attempts without authorisation / by another contract / with another
    payload hash fail, a re-approval with other content is inert, the destination consumes it (true), a second attempt
    returns false.  The bound `≤ 1` is attained (the count is 1, and 0 before the consumption); the hypothesis of
    `approved_content_stable` holds after the first call and both of its outcomes occur (the record stays through five further
    calls, then becomes executed); all four hypotheses of `consume_binds_fields` hold at the successful consumption. -/
theorem consume_history_nonvacuous :
    ∃ w0, constructed H0 owner0 owner0 [1] 0 0 [ws0] 5 = some w0 ∧
      -- `consume_binds_fields`: both messages are typed, the consumption succeeds (the record is in the last group)
      mA.Typed ∧
      ({ sourceChain := mA.sourceChain, messageId := mA.messageId, sourceAddress := [98], contract := dest0,
         payloadHash := List.replicate 32 3 } : Message).Typed ∧
      (∃ st' evs, validateMessage H0 (run H0 V0 w0 (opsC.take 5)).1.st [dest0] dest0 mA.sourceChain mA.messageId [98]
          (List.replicate 32 3) = .ok (st', true, evs)) ∧
      -- the history: which calls succeeded, what the consumption attempts returned, how many events each call emitted
      (run H0 V0 w0 opsC).2.map gwOk = [true, false, true, true, true, true, true, true, true] ∧
      (run H0 V0 w0 opsC).2.map gwRet = [none, none, some false, some false, none, some true, some false, none, some false] ∧
      (run H0 V0 w0 opsC).2.map gwEvents = [1, 0, 0, 0, 0, 1, 0, 0, 0] ∧
      -- `consume_at_most_once`: the bound is attained
      consumptions [97] [49] opsC (run H0 V0 w0 opsC).2 = 1 ∧
      consumptions [97] [49] (opsC.take 5) (run H0 V0 w0 (opsC.take 5)).2 = 0 ∧
      -- `approved_content_stable`: its hypothesis after the first call, and both outcomes
      w0.st.approvals [97] [49] = .notApproved ∧
      (run H0 V0 w0 (opsC.take 1)).1.st.approvals [97] [49] = .approved (messageHash H0 mA) ∧
      (run H0 V0 (run H0 V0 w0 (opsC.take 1)).1 ((opsC.drop 1).take 4)).1.st.approvals [97] [49] = .approved (messageHash H0 mA) ∧
      (run H0 V0 (run H0 V0 w0 (opsC.take 1)).1 (opsC.drop 1)).1.st.approvals [97] [49] = .executed ∧
      messageHash H0 mB ≠ messageHash H0 mA ∧
      (run H0 V0 w0 (opsC.take 5)).1.st.approvals mA.sourceChain mA.messageId = .approved (messageHash H0 mA) := by
  refine exists_of_isSome (by decide +kernel) ?_
  decide +kernel

end NonVacuity

end Cgp.Props.C02
