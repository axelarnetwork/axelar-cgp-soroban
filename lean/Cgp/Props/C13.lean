/-
  Property C13 — outbound calls are announced exactly, and only under the sender's authority.
-/
import Cgp.Toy
namespace Cgp.Props.C13
open Cgp.Xdr Cgp.Gateway

variable (H : Bytes → Bytes) {σ : Type} (V : Bytes → Bytes → σ → Bool)

/-- the announcement: (sender, destination chain, destination address, hash of the payload) as topics, the payload as data -/
def announcement (caller : Addr) (chain dest payload : Bytes) : Event :=
  { topics := [.sym symContractCalled, .addr caller, .str chain, .str dest, .bytes (H payload)], data := .bytes payload }

/-- authorised ⇒ exactly one announcement carrying exactly these fields, and the state is untouched -/
theorem callContract_event (w : World) (auths : List Addr) (caller : Addr) (chain dest payload : Bytes)
    (hauth : caller ∈ auths) :
    step H V w (.callContract auths caller chain dest payload) = (w, .ok [announcement H caller chain dest payload]) := by
  simp only [step, Gateway.callContract_ok_iff.mpr ⟨hauth, rfl⟩]
  rfl

/-- not authorised ⇒ rejected, nothing emitted, state untouched -/
theorem callContract_unauth (w : World) (auths : List Addr) (caller : Addr) (chain dest payload : Bytes)
    (hauth : caller ∉ auths) :
    step H V w (.callContract auths caller chain dest payload) = (w, .err .unauthorized) := by
  simp [step, callContract, hauth]

/-- success ⇔ the named sender authorised the call -/
theorem callContract_ok_iff (w : World) (auths : List Addr) (caller : Addr) (chain dest payload : Bytes) :
    (∃ evs, (step H V w (.callContract auths caller chain dest payload)).2 = .ok evs) ↔ caller ∈ auths := by
  by_cases h : caller ∈ auths
  · rw [callContract_event H V w auths caller chain dest payload h]; exact iff_of_true ⟨_, rfl⟩ h
  · rw [callContract_unauth H V w auths caller chain dest payload h]; exact iff_of_false (by rintro ⟨_, ⟨⟩⟩) h

/-- over any history, outbound calls never change the contract state: a history consisting of outbound calls only
    (authorised or not) ends in the state it started from -/
theorem callContract_history_inert (w : World) (ops : List (Op σ))
    (hall : ∀ op ∈ ops, ∃ auths caller chain dest payload, op = .callContract auths caller chain dest payload) :
    (run H V w ops).1 = w := by
  induction ops generalizing w with
  | nil => rfl
  | cons op ops ih =>
    obtain ⟨auths, caller, chain, dest, payload, rfl⟩ := hall _ List.mem_cons_self
    have hs : (step H V w (.callContract auths caller chain dest payload)).1 = w := by
      by_cases h : caller ∈ auths
      · rw [callContract_event H V w auths caller chain dest payload h]
      · rw [callContract_unauth H V w auths caller chain dest payload h]
    rw [run_cons, hs]
    exact ih w fun op h => hall op (List.mem_cons_of_mem _ h)

/-- the announced hash is a function of the payload alone: two announcements with the same hash field have the same
    payload or exhibit a collision -/
theorem announcement_hash_binds (caller caller' : Addr) (chain dest payload chain' dest' payload' : Bytes)
    (h : (announcement H caller chain dest payload).topics = (announcement H caller' chain' dest' payload').topics) :
    payload = payload' ∨ Collision H := by
  simp only [announcement, List.cons.injEq, ScVal.bytes.injEq] at h
  exact eq_or_collision H h.2.2.2.2.1

/-- non-vacuity: an authorised call in a concrete world -/
example : ∃ evs, (step (fun b => b) (fun _ _ (_ : Unit) => true)
    ⟨initState ⟨true, []⟩ ⟨true, []⟩ [] 0 0, 0⟩ (.callContract [⟨true, [1]⟩] ⟨true, [1]⟩ [] [] [7])).2 = .ok evs ∧ evs.length = 1 := by
  rw [callContract_event _ _ _ _ _ _ _ _ (by simp)]
  exact ⟨_, rfl, rfl⟩

/-- the announcement does not look at the migration window: between the owner's `upgrade` and `migrate` a call is accepted,
    refused and announced exactly as at any other time (and it leaves the window as it is) -/
theorem announcement_ignores_migration_window (st : State) (b : Bool) (auths : List Addr) (caller : Addr)
    (chain dest payload : Bytes) :
    (match callContract H { st with migrating := b } auths caller chain dest payload with
      | .ok (st', evs) => some (evs, st'.migrating)
      | .error _ => none) =
    (match callContract H st auths caller chain dest payload with
      | .ok (_, evs) => some (evs, b)
      | .error _ => none) := by
  unfold callContract
  by_cases h : caller ∈ auths <;> simp [h]

section NonVacuity
open Cgp.Toy

def app0 : Addr := ⟨true, List.replicate 32 9⟩
def mA : Message := ⟨[97], [49], [98], app0, List.replicate 32 3⟩
def opsO : List (Op Unit) :=
  [ .callContract [app0] app0 [100] [101] [1, 2, 3],      -- the sender's authorisation: announced
    .callContract [] app0 [100] [101] [1, 2, 3],          -- none: rejected
    .callContract [owner0, app0] app0 [100] [102] [] ]    -- announced

/-- the hypothesis of `callContract_history_inert` is satisfiable on a world with content: on a constructed gateway (epoch 1)
    that has approved a message, a history of outbound calls — two authorised, one not — emits exactly one event per authorised
    call and leaves the approval record, the epoch, the signer lookup, the rotation clock and the ledger time as they were -/
theorem callContract_history_nonvacuous :
    ∃ w0, constructed H0 owner0 owner0 [1] 0 0 [ws0] 5 = some w0 ∧
      (∀ op ∈ opsO, ∃ auths caller chain dest payload, op = .callContract auths caller chain dest payload) ∧
      (run H0 V0 w0 [.approve [mA] pf0]).1.st.approvals [97] [49] = .approved (messageHash H0 mA) ∧
      (run H0 V0 w0 [.approve [mA] pf0]).1.st.epoch = 1 ∧
      (run H0 V0 (run H0 V0 w0 [.approve [mA] pf0]).1 opsO).2.map gwErr = [none, some .unauthorized, none] ∧
      (run H0 V0 (run H0 V0 w0 [.approve [mA] pf0]).1 opsO).2.map gwEvents = [1, 0, 1] ∧
      (run H0 V0 (run H0 V0 w0 [.approve [mA] pf0]).1 opsO).1.st.approvals [97] [49] = .approved (messageHash H0 mA) ∧
      (run H0 V0 (run H0 V0 w0 [.approve [mA] pf0]).1 opsO).1.st.epoch = 1 ∧
      (run H0 V0 (run H0 V0 w0 [.approve [mA] pf0]).1 opsO).1.st.epochByHash (signersHash H0 ws0) = some 1 ∧
      (run H0 V0 (run H0 V0 w0 [.approve [mA] pf0]).1 opsO).1.st.lastRot = some 5 ∧
      (run H0 V0 (run H0 V0 w0 [.approve [mA] pf0]).1 opsO).1.now = 5 := by
  refine exists_of_isSome (by decide +kernel) ⟨?_, ?_⟩
  · intro op h
    simp only [opsO, List.mem_cons, List.not_mem_nil, or_false] at h
    rcases h with rfl | rfl | rfl <;> exact ⟨_, _, _, _, _, rfl⟩
  · decide +kernel

/-- a history with calls INSIDE the migration window: the owner upgrades, an authorised call is announced (one event), an
    unauthorised one is refused, the owner migrates, a call is announced again; a migration with no open window is refused -/
theorem window_history_nonvacuous :
    ∃ w0, constructed H0 owner0 owner0 [1] 0 0 [ws0] 5 = some w0 ∧
      (run H0 V0 w0 [.migrate [owner0], .upgrade [owner0], .callContract [app0] app0 [100] [101] [1, 2, 3],
          .callContract [] app0 [100] [101] [1, 2, 3], .migrate [owner0], .callContract [app0] app0 [100] [101] [7]]).2.map gwErr =
        [some .migrationNotAllowed, none, none, some .unauthorized, none, none] ∧
      (run H0 V0 w0 [.migrate [owner0], .upgrade [owner0], .callContract [app0] app0 [100] [101] [1, 2, 3],
          .callContract [] app0 [100] [101] [1, 2, 3], .migrate [owner0], .callContract [app0] app0 [100] [101] [7]]).2.map gwEvents =
        [0, 0, 1, 0, 0, 1] := by
  refine exists_of_isSome (by decide +kernel) ?_
  decide +kernel

end NonVacuity

end Cgp.Props.C13
