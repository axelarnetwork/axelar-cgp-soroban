/-
  Property C11 — token ids are deterministic and write-once; deployed tokens stay mintable by the service (with the one
  known exception, proved as such); every registry entry has one of three causes.
-/
import Cgp.Proofs.Its
import Cgp.Toy
namespace Cgp.Props.C11
open Cgp.Xdr Cgp.Its

variable (H : Bytes → Bytes) (S : Bytes → Bytes) (k : Consts)

/-- the values really are host values: 32-byte ids, u32-sized strings -/
def Small (b : Bytes) : Prop := b.length < 256 ^ 4

/-! ### ids are domain-separated, injective functions of their inputs (or a hash collision is exhibited) -/

theorem zeroAddr_wf : zeroAddr.WF := List.length_replicate

theorem chainNameHash_binds (c c' : Bytes) (hc : Small c) (hc' : Small c') (h : chainNameHash H c = chainNameHash H c') :
    c = c' ∨ Collision H :=
  (hash_enc_binds H (x := .str c) (y := .str c') hc hc' h).imp_left ScVal.str.inj

/-- The chain-name hash sits inside the hashed value, so it must be a host value too (`hn`, `hn'`).  That is assumed of the two
    hashes at hand: assumed of every output of `H`, as in `deploySalt_binds`, it would make `H` collide by counting. -/
theorem deploySalt_inj {c c' : Bytes} {d d' : Addr} {s s' : Bytes}
    (hc : Small c) (hc' : Small c') (hd : d.WF) (hd' : d'.WF) (hs : Small s) (hs' : Small s')
    (hp : Small k.prefixTokenSalt) (hn : Small (chainNameHash H c)) (hn' : Small (chainNameHash H c'))
    (h : deploySalt H k c d s = deploySalt H k c' d' s') :
    (c = c' ∧ d = d' ∧ s = s') ∨ Collision H := by
  unfold Small at *
  refine (hash_enc_binds H (by simp [*]) (by simp [*]) h).elim (fun h1 => ?_) .inr
  simp only [ScVal.vec.injEq, ScVals.cons.injEq, ScVal.bytes.injEq, ScVal.addr.injEq, true_and, and_true] at h1
  exact (chainNameHash_binds H c c' hc hc' h1.1).imp_left (⟨·, h1.2⟩)

theorem deploySalt_binds (c c' : Bytes) (d d' : Addr) (s s' : Bytes)
    (hc : Small c) (hc' : Small c') (hd : d.WF) (hd' : d'.WF) (hs : Small s) (hs' : Small s')
    (hp : Small k.prefixTokenSalt) (hh : ∀ x, Small (H x))
    (h : deploySalt H k c d s = deploySalt H k c' d' s') :
    (c = c' ∧ d = d' ∧ s = s') ∨ Collision H :=
  deploySalt_inj H k hc hc' hd hd' hs hs' hp (hh _) (hh _) h

theorem tokenIdOf_binds (a a' : Addr) (s s' : Bytes) (ha : a.WF) (ha' : a'.WF) (hs : Small s) (hs' : Small s')
    (hp2 : Small k.prefixTokenId) (h : tokenIdOf H k a s = tokenIdOf H k a' s') :
    (a = a' ∧ s = s') ∨ Collision H := by
  unfold Small at *
  refine (hash_enc_binds H (by simp [*]) (by simp [*]) h).imp_left fun h1 => ?_
  simpa using h1

theorem canonicalSalt_inj {c c' : Bytes} {t t' : Addr} (hc : Small c) (hc' : Small c') (ht : t.WF) (ht' : t'.WF)
    (hp : Small k.prefixCanonicalSalt) (hn : Small (chainNameHash H c)) (hn' : Small (chainNameHash H c'))
    (h : canonicalSalt H k c t = canonicalSalt H k c' t') :
    (c = c' ∧ t = t') ∨ Collision H := by
  unfold Small at *
  refine (hash_enc_binds H (by simp [*]) (by simp [*]) h).elim (fun h1 => ?_) .inr
  simp only [ScVal.vec.injEq, ScVals.cons.injEq, ScVal.bytes.injEq, ScVal.addr.injEq, true_and, and_true] at h1
  exact (chainNameHash_binds H c c' hc hc' h1.1).imp_left (⟨·, h1.2⟩)

theorem canonicalSalt_binds (c c' : Bytes) (t t' : Addr)
    (hc : Small c) (hc' : Small c') (ht : t.WF) (ht' : t'.WF)
    (hp : Small k.prefixCanonicalSalt) (hh : ∀ x, Small (H x))
    (h : canonicalSalt H k c t = canonicalSalt H k c' t') :
    (c = c' ∧ t = t') ∨ Collision H :=
  canonicalSalt_inj H k hc hc' ht ht' hp (hh _) (hh _) h

theorem interchainTokenId_inj {c c' : Bytes} {d d' : Addr} {s s' : Bytes}
    (hc : Small c) (hc' : Small c') (hd : d.WF) (hd' : d'.WF) (hs : Small s) (hs' : Small s')
    (hp : Small k.prefixTokenSalt) (hp2 : Small k.prefixTokenId) (hn : Small (chainNameHash H c)) (hn' : Small (chainNameHash H c'))
    (hsalt : Small (deploySalt H k c d s)) (hsalt' : Small (deploySalt H k c' d' s'))
    (h : interchainTokenId H k c d s = interchainTokenId H k c' d' s') :
    (c = c' ∧ d = d' ∧ s = s') ∨ Collision H :=
  (tokenIdOf_binds H k _ _ _ _ zeroAddr_wf zeroAddr_wf hsalt hsalt' hp2 h).elim
    (fun h1 => deploySalt_inj H k hc hc' hd hd' hs hs' hp hn hn' h1.2) .inr

/-- the id of a service-deployed token is bound to (chain name, deployer, salt) -/
theorem interchain_id_binds (c c' : Bytes) (d d' : Addr) (s s' : Bytes)
    (hc : Small c) (hc' : Small c') (hd : d.WF) (hd' : d'.WF) (hs : Small s) (hs' : Small s')
    (hp : Small k.prefixTokenSalt) (hp2 : Small k.prefixTokenId) (hh : ∀ x, Small (H x))
    (h : interchainTokenId H k c d s = interchainTokenId H k c' d' s') :
    (c = c' ∧ d = d' ∧ s = s') ∨ Collision H :=
  interchainTokenId_inj H k hc hc' hd hd' hs hs' hp hp2 (hh _) (hh _) (hh _) (hh _) h

theorem canonicalTokenId_inj {c c' : Bytes} {t t' : Addr} (hc : Small c) (hc' : Small c') (ht : t.WF) (ht' : t'.WF)
    (hp : Small k.prefixCanonicalSalt) (hp2 : Small k.prefixTokenId) (hn : Small (chainNameHash H c)) (hn' : Small (chainNameHash H c'))
    (hsalt : Small (canonicalSalt H k c t)) (hsalt' : Small (canonicalSalt H k c' t'))
    (h : canonicalTokenId H k c t = canonicalTokenId H k c' t') :
    (c = c' ∧ t = t') ∨ Collision H :=
  (tokenIdOf_binds H k _ _ _ _ zeroAddr_wf zeroAddr_wf hsalt hsalt' hp2 h).elim
    (fun h1 => canonicalSalt_inj H k hc hc' ht ht' hp hn hn' h1.2) .inr

/-- the id of a canonical token is bound to (chain name, token address) -/
theorem canonical_id_binds (c c' : Bytes) (t t' : Addr)
    (hc : Small c) (hc' : Small c') (ht : t.WF) (ht' : t'.WF)
    (hp : Small k.prefixCanonicalSalt) (hp2 : Small k.prefixTokenId) (hh : ∀ x, Small (H x))
    (h : canonicalTokenId H k c t = canonicalTokenId H k c' t') :
    (c = c' ∧ t = t') ∨ Collision H :=
  canonicalTokenId_inj H k hc hc' ht ht' hp hp2 (hh _) (hh _) (hh _) (hh _) h

/-- The two salts are hashes of vectors of different lengths (four entries against three), so the prefixes need not even differ. -/
theorem interchainTokenId_ne_canonicalTokenId {c c' : Bytes} {d t : Addr} {s : Bytes}
    (hd : d.WF) (ht : t.WF) (hs : Small s)
    (hp : Small k.prefixTokenSalt) (hp' : Small k.prefixCanonicalSalt) (hp2 : Small k.prefixTokenId)
    (hn : Small (chainNameHash H c)) (hn' : Small (chainNameHash H c'))
    (hsalt : Small (deploySalt H k c d s)) (hsalt' : Small (canonicalSalt H k c' t))
    (h : interchainTokenId H k c d s = canonicalTokenId H k c' t) : Collision H := by
  unfold Small at *
  refine (tokenIdOf_binds H k _ _ _ _ zeroAddr_wf zeroAddr_wf hsalt hsalt' hp2 h).elim (fun h1 => ?_) id
  exact (hash_enc_binds H (by simp [*]) (by simp [*]) h1.2).resolve_left (by simp)

/-- the two kinds of id never coincide, as long as the two salt prefixes differ -/
theorem interchain_ne_canonical (c c' : Bytes) (d t : Addr) (s : Bytes)
    (hc : Small c) (hc' : Small c') (hd : d.WF) (ht : t.WF) (hs : Small s)
    (hp : Small k.prefixTokenSalt) (hp' : Small k.prefixCanonicalSalt) (hp2 : Small k.prefixTokenId) (hh : ∀ x, Small (H x))
    (hne : k.prefixTokenSalt ≠ k.prefixCanonicalSalt)
    (h : interchainTokenId H k c d s = canonicalTokenId H k c' t) : Collision H :=
  interchainTokenId_ne_canonicalTokenId H k hd ht hs hp hp' hp2 (hh _) (hh _) (hh _) (hh _) h

/-- the deployed token's address is a function of (service, id), and different ids give different addresses or a collision of S -/
theorem deployed_address_binds (self : Addr) (tid tid' : Bytes) (h1 : tid.length = 32) (h2 : tid'.length = 32)
    (h : deployedAddress S k self tid = deployedAddress S k self tid') : tid = tid' ∨ Collision S := by
  unfold deployedAddress at h
  exact (eq_or_collision S (Addr.mk.inj h).2).imp_left List.append_cancel_left

/-- re-deploying under the same (deployer, salt) fails: the derived address already holds the token -/
theorem redeploy_refused (st : State) (auths : List Addr) (caller : Addr) (salt name symbol : Bytes) (decimals : Nat)
    (supply : Int) (minter : Option Addr)
    (h : (st.tokens (deployedAddress S k st.self (interchainTokenId H k st.chainName caller salt))).isSome = true) :
    ∃ e, deployInterchainToken H S k st auths caller salt name symbol decimals supply minter = .error e := by
  refine error_of_not_ok fun r hd => ?_
  rw [(deployInterchainToken_ok hd).2.2.1] at h
  cases h

/-- Every successful local deployment: the id is the stated function of (chain, deployer, salt); the registry maps it to the
    derived address with the native manager; the token reports that id and the requested metadata, is owned by the service,
    and the deployer holds max(supply, 0).  Minting rights: under the hypothesis that NOT (supply > 0 and a minter other
    than the service is designated), the minters are exactly the service and the designated minter. -/
theorem deploy_exact (st st' : State) (auths : List Addr) (caller : Addr) (salt name symbol : Bytes) (decimals : Nat)
    (supply : Int) (minter : Option Addr) (tid : Bytes) (evs : List Event)
    (h : deployInterchainToken H S k st auths caller salt name symbol decimals supply minter = .ok (st', tid, evs)) :
    caller ∈ auths ∧ tid = interchainTokenId H k st.chainName caller salt ∧
    st'.registry tid = some (deployedAddress S k st.self tid, .native) ∧
    ∃ t, st'.tokens (deployedAddress S k st.self tid) = some t ∧
      t.kind = .interchain ∧ t.tokenId = tid ∧ t.name = name ∧ t.symbol = symbol ∧ t.decimals = decimals ∧
      t.owner = st.self ∧
      t.bal caller = (if supply > 0 then supply else 0) ∧ (∀ x, x ≠ caller → t.bal x = 0) ∧
      (¬ (supply > 0 ∧ ∃ m, minter = some m ∧ m ≠ st.self) →
          ∀ x, t.minter x = (decide (x = st.self) || decide (minter = some x))) := by
  obtain ⟨hau, -, -, -, -, -, hr⟩ := deployInterchainToken_ok h
  cases hr
  refine ⟨hau, rfl, if_pos rfl, _, setTok_self _ _ _, ?_⟩
  unfold deployedTok
  by_cases hs : supply > 0
  · rw [if_pos hs]
    refine ⟨rfl, rfl, rfl, rfl, rfl, rfl, by simp [bump, hs], fun x hx => by simp [bump, hx], fun hc x => ?_⟩
    cases minter with
    | none => simp [freshTok, eq_comm]
    | some m =>
      -- only the service itself may be the designated minter here: handing over to itself changes nothing
      have hm : m = st.self := Decidable.by_contra fun hq => hc ⟨hs, m, rfl, hq⟩
      subst hm
      by_cases hx : x = st.self <;> simp [freshTok, hx, eq_comm]
  · rw [if_neg hs]
    exact ⟨rfl, rfl, rfl, rfl, rfl, rfl, by simp [freshTok, hs], fun _ _ => rfl, fun _ _ => rfl⟩

/-- KNOWN FINDING, proved: with a positive initial supply and a designated minter other than the service, the service is NOT
    a minter of the token it just deployed … -/
theorem supply_and_minter_counterexample (st st' : State) (auths : List Addr) (caller : Addr) (salt name symbol : Bytes)
    (decimals : Nat) (supply : Int) (m : Addr) (tid : Bytes) (evs : List Event)
    (hs : supply > 0) (hm : m ≠ st.self)
    (h : deployInterchainToken H S k st auths caller salt name symbol decimals supply (some m) = .ok (st', tid, evs)) :
    ∃ t, st'.tokens (deployedAddress S k st.self tid) = some t ∧ t.minter st.self = false ∧ t.minter m = true := by
  cases (deployInterchainToken_ok h).2.2.2.2.2.2
  refine ⟨_, setTok_self _ _ _, ?_, ?_⟩
  · simp [deployedTok, hs, Ne.symm hm]
  · simp [deployedTok, hs]

/-- … so the service can no longer mint it: every inbound transfer to that token is rejected -/
theorem no_mint_without_minter_right (st : State) (token dst : Addr) (amount : Int) (t : Tok)
    (ht : st.tokens token = some t) (hm : t.minter t.owner = false) :
    ∃ e, tokMintByService st token dst amount = .error e := by
  refine error_of_not_ok fun r h => ?_
  obtain ⟨t', ht', -, -, hm', -⟩ := tokMintByService_ok_iff.mp h
  cases ht.symm.trans ht'
  cases hm'.symm.trans hm

/-- a token deployed by a remote deploy message: owned by the service, minters = the service and the decoded minter -/
theorem remote_deploy_exact (st st' : State) (c i sa payload origin : Bytes) (d : Abi.Deploy) (evs : List Event)
    (h : execute H S k st c i sa payload = .ok (st', evs))
    (hd : Abi.decodeHub payload = .ok (.receiveFromHub origin (.deploy d))) :
    st'.registry d.tokenId = some (deployedAddress S k st.self d.tokenId, .native) ∧
    ∃ t, st'.tokens (deployedAddress S k st.self d.tokenId) = some t ∧
      t.kind = .interchain ∧ t.tokenId = d.tokenId ∧ t.name = d.name ∧ t.symbol = d.symbol ∧ t.decimals = d.decimals ∧
      t.owner = st.self ∧ (∀ x, t.bal x = 0) ∧
      (∀ x, t.minter x = (decide (x = st.self) || decide ((d.minter.bind addrFromXdr) = some x))) := by
  obtain ⟨-, -, -, _, _, hdec, -, hr⟩ := execute_ok_iff.mp h
  cases hd.symm.trans hdec
  cases (recvDeploy_ok_iff.mp hr).2.2.2.2.2
  exact ⟨if_pos rfl, _, setTok_self _ _ _, rfl, rfl, rfl, rfl, rfl, rfl, fun _ => rfl, fun _ => rfl⟩

/-- re-registering a canonical token, and a remote deploy message for a taken id, fail -/
theorem taken_id_refused (st : State) (token : Addr) (c i sa payload origin : Bytes) (d : Abi.Deploy) :
    ((st.registry (canonicalTokenId H k st.chainName token)).isSome = true →
        ∃ e, registerCanonicalToken H k st token = .error e) ∧
    (Abi.decodeHub payload = .ok (.receiveFromHub origin (.deploy d)) → (st.registry d.tokenId).isSome = true →
        ∃ e, execute H S k st c i sa payload = .error e) := by
  refine ⟨fun hs => ⟨.tokenAlreadyRegistered, if_pos hs⟩, fun hdec hs => error_of_not_ok fun r hex => ?_⟩
  obtain ⟨-, -, -, _, _, hdec', -, hr⟩ := execute_ok_iff.mp hex
  cases hdec.symm.trans hdec'
  rw [(recvDeploy_ok_iff.mp hr).1] at hs
  cases hs

/-- a service history recorded as (state before the call, the call, what was observed) -/
def itrace (st : State) : List Op → List (State × Op × Obs)
  | [] => []
  | op :: ops => (st, op, (step H S k st op).2) :: itrace (step H S k st op).1 ops

/-- the three possible causes of the registry entry `tid ↦ (addr, mgr)` (what `registry_provenance_or_clash` finds in the history) -/
def Cause (tid : Bytes) (addr : Addr) (mgr : Manager) (st : State) (op : Op) (o : Obs) : Prop :=
  (∃ auths caller salt name symbol dec supply minter evs,
      op = .deploy auths caller salt name symbol dec supply minter ∧ o = .okId tid evs ∧ caller ∈ auths ∧
      tid = interchainTokenId H k st.chainName caller salt ∧ mgr = .native ∧ addr = deployedAddress S k st.self tid) ∨
  (∃ token evs, op = .registerCanonical token ∧ o = .okId tid evs ∧
      tid = canonicalTokenId H k st.chainName token ∧ mgr = .lockUnlock ∧ addr = token) ∨
  (∃ c i sa payload origin d evs,
      op = .execute c i sa payload ∧ o = .ok evs ∧
      Abi.decodeHub payload = .ok (.receiveFromHub origin (.deploy d)) ∧ d.tokenId = tid ∧
      st.gw.approvals c i = .approved (Gateway.messageHash H ⟨c, i, sa, st.self, H payload⟩) ∧
      mgr = .native ∧ addr = deployedAddress S k st.self tid)

/-- a local deployment whose derived id equals `tid` (for a canonical entry this can only happen through a hash collision,
    see `interchain_ne_canonical`) -/
def DeploysId (chain : Bytes) (tid : Bytes) : Op → Prop
  | .deploy _ ca sa _ _ _ _ _ => interchainTokenId H k chain ca sa = tid
  | _ => False

/-- the last conjunct: the id was free, unless a local deployment (to a so far unused address) took it over, the case of
    `clash_overwrites_canonical_entry` -/
theorem step_registry_at (st : State) (op : Op) (tid : Bytes) :
    (step H S k st op).1.registry tid = st.registry tid ∨
    ∃ addr mgr, (step H S k st op).1.registry tid = some (addr, mgr) ∧
      Cause H S k tid addr mgr st op (step H S k st op).2 ∧
      (mgr = .native → addr = deployedAddress S k st.self tid ∧ ((step H S k st op).1.tokens addr).isSome = true) ∧
      (st.registry tid = none ∨ (st.tokens (deployedAddress S k st.self tid) = none ∧ DeploysId H k st.chainName tid op)) := by
  have he := step_effect H S k st op
  generalize step H S k st op = r at he ⊢
  cases he with
  | @deploy au ca sa n sy d su m tid' addr evs htid haddr hau htok =>
    by_cases hx : tid = tid'
    · subst hx
      exact .inr ⟨_, _, if_pos rfl, .inl ⟨au, ca, sa, n, sy, d, su, m, evs, rfl, rfl, hau, htid, rfl, haddr⟩,
        fun _ => ⟨haddr, by rw [setTok_self]; rfl⟩, .inr ⟨haddr ▸ htok, htid.symm⟩⟩
    · exact .inl (if_neg hx)
  | @registerCanonical t tid' evs htid hfree =>
    by_cases hx : tid = tid'
    · subst hx
      exact .inr ⟨_, _, if_pos rfl, .inr (.inl ⟨t, evs, rfl, rfl, htid, rfl, rfl⟩), nofun, .inl hfree⟩
    · exact .inl (if_neg hx)
  | @recvDeploy c i sa p origin d addr evs happ hdec haddr hfree htok =>
    by_cases hx : tid = d.tokenId
    · subst hx
      exact .inr ⟨_, _, if_pos rfl, .inr (.inr ⟨c, i, sa, p, origin, d, evs, rfl, rfl, hdec, rfl, happ, rfl, haddr⟩),
        fun _ => ⟨haddr, by rw [setTok_self]; rfl⟩, .inl hfree⟩
    · exact .inl (if_neg hx)
  | _ => exact .inl rfl

theorem provenance_step (st : State) (op : Op) (tid : Bytes) (addr : Addr) (mgr : Manager)
    (h0 : st.registry tid = none) (h1 : (step H S k st op).1.registry tid = some (addr, mgr)) :
    Cause H S k tid addr mgr st op (step H S k st op).2 := by
  rcases step_registry_at H S k st op tid with hr | ⟨_, _, hr, hc, -⟩
  · rw [hr, h0] at h1; cases h1
  · rw [hr] at h1; cases h1; exact hc

def RegInvAt (st : State) (tid : Bytes) : Prop :=
  ∀ addr, st.registry tid = some (addr, .native) → addr = deployedAddress S k st.self tid ∧ (st.tokens addr).isSome = true

theorem regInvAt_step (st : State) (op : Op) (tid : Bytes) (h : RegInvAt S k st tid) :
    RegInvAt S k (step H S k st op).1 tid := by
  intro a hx
  rw [step_self]
  rcases step_registry_at H S k st op tid with hr | ⟨addr, mgr, hr, -, ht, -⟩
  · rw [hr] at hx
    exact ⟨(h a hx).1, step_tokens H S k st op a (h a hx).2⟩
  · rw [hr] at hx
    cases hx
    exact ht rfl

theorem write_once_step_at (st : State) (op : Op) (tid : Bytes) (v : Addr × Manager) (hinv : RegInvAt S k st tid)
    (h : st.registry tid = some v) (hnc : v.2 = .lockUnlock → ¬ DeploysId H k st.chainName tid op) :
    (step H S k st op).1.registry tid = some v := by
  rcases step_registry_at H S k st op tid with hr | ⟨addr, mgr, -, -, -, hfree | ⟨hfree, hd⟩⟩
  · rw [hr]; exact h
  · rw [h] at hfree; cases hfree
  · obtain ⟨a, m⟩ := v
    cases m with
    | lockUnlock => exact absurd hd (hnc rfl)
    | native =>
      -- a local deployment derives its address from the id: it is the address the native entry already points at
      obtain ⟨h1, h2⟩ := hinv a h
      rw [h1, hfree] at h2
      cases h2

theorem stable_or_clash (st : State) (ops : List Op) (tid : Bytes) (v : Addr × Manager) (hinv : RegInvAt S k st tid)
    (h : st.registry tid = some v) :
    (run H S k st ops).1.registry tid = some v ∨
    (v.2 = .lockUnlock ∧ ∃ op ∈ ops, DeploysId H k st.chainName tid op) := by
  induction ops generalizing st with
  | nil => exact .inl h
  | cons op ops ih =>
    by_cases hc : v.2 = .lockUnlock ∧ DeploysId H k st.chainName tid op
    · exact .inr ⟨hc.1, op, List.mem_cons_self, hc.2⟩
    · exact (ih _ (regInvAt_step H S k st op tid hinv)
        (write_once_step_at H S k st op tid v hinv h fun hv hd => hc ⟨hv, hd⟩)).imp_right
        fun ⟨hv, op', hop', hd⟩ => ⟨hv, op', List.mem_cons_of_mem _ hop', step_chainName H S k st op ▸ hd⟩

/-- every native entry of the registry points at the address derived from its id, and that address holds a token -/
def RegInv (st : State) : Prop :=
  ∀ tid addr, st.registry tid = some (addr, .native) → addr = deployedAddress S k st.self tid ∧ (st.tokens addr).isSome = true

theorem regInv_step (st : State) (op : Op) (h : RegInv S k st) : RegInv S k (step H S k st op).1 :=
  fun tid => regInvAt_step H S k st op tid (h tid)

theorem regInv_run (st : State) (ops : List Op) (h : RegInv S k st) : RegInv S k (run H S k st ops).1 :=
  Run.invariant (fun st op => (step H S k st op).1) (fun st ops => (run H S k st ops).1) (fun _ => rfl)
    (fun _ _ _ => rfl) (RegInv S k) (regInv_step H S k) ops st h

theorem registry_write_once_step (st : State) (op : Op) (tid : Bytes) (v : Addr × Manager) (hinv : RegInv S k st)
    (h : st.registry tid = some v) (hnc : v.2 = .lockUnlock → ¬ DeploysId H k st.chainName tid op) :
    (step H S k st op).1.registry tid = some v :=
  write_once_step_at H S k st op tid v (hinv tid) h hnc

/-- once an id is registered its token address and manager type never change, in any history: re-deploying, re-registering
    and remote deploy messages for a taken id all leave the entry as it is -/
theorem registry_write_once (st : State) (ops : List Op) (tid : Bytes) (v : Addr × Manager) (hinv : RegInv S k st)
    (h : st.registry tid = some v) (hnc : v.2 = .lockUnlock → ∀ op ∈ ops, ¬ DeploysId H k st.chainName tid op) :
    (run H S k st ops).1.registry tid = some v :=
  (stable_or_clash H S k st ops tid v (hinv tid) h).resolve_right fun ⟨hv, op, hop, hd⟩ => hnc hv op hop hd

/-! ### where every registry entry comes from (history level)

  An unconditional statement would be false: `deployInterchainToken` never looks at the registry, so when the interchain
  id of (deployer, salt) equals the canonical id of a registered token (a collision of `H`), a local deployment
  overwrites the canonical entry (`clash_overwrites_canonical_entry`). -/

/-- registry provenance, raw form: either the cause is found in the history, or the history contains a canonical
    registration AND a local deployment whose ids both equal `tid` — which `interchain_ne_canonical` turns into a collision of `H` for host-sized inputs
    (see `registry_provenance_or_collision`). -/
theorem registry_provenance_or_clash (st0 : State) (ops : List Op) (tid : Bytes) (addr : Addr) (mgr : Manager)
    (h0 : st0.registry tid = none) (hfin : (run H S k st0 ops).1.registry tid = some (addr, mgr)) :
    (∃ st op o, (st, op, o) ∈ itrace H S k st0 ops ∧ st.registry tid = none ∧ st.chainName = st0.chainName ∧ st.self = st0.self ∧
      Cause H S k tid addr mgr st op o) ∨
    (∃ token au caller salt n sy d su m, Op.registerCanonical token ∈ ops ∧ Op.deploy au caller salt n sy d su m ∈ ops ∧
      tid = canonicalTokenId H k st0.chainName token ∧ tid = interchainTokenId H k st0.chainName caller salt) := by
  induction ops generalizing st0 with
  | nil => cases h0.symm.trans hfin
  | cons op ops ih =>
    cases hmid : (step H S k st0 op).1.registry tid with
    | none =>
      -- registered later: the induction hypothesis, carried back over the first step
      rcases ih (step H S k st0 op).1 hmid hfin with ⟨st, op', o, hmem, hn, hc, hs, hcase⟩ |
          ⟨token, au, caller, salt, n, sy, d, su, m, hr, hdp, h1, h2⟩
      · exact .inl ⟨st, op', o, List.mem_cons_of_mem _ hmem, hn, hc.trans (step_chainName ..), hs.trans (step_self ..), hcase⟩
      · rw [step_chainName] at h1 h2
        exact .inr ⟨token, au, caller, salt, n, sy, d, su, m, List.mem_cons_of_mem _ hr, List.mem_cons_of_mem _ hdp, h1, h2⟩
    | some v =>
      -- registered by the first step, as `(a, m)`: that entry stays, or it is canonical and a later deployment takes the id
      obtain ⟨a, m⟩ := v
      have hcause := provenance_step H S k st0 op tid a m h0 hmid
      have hinv1 := regInvAt_step H S k st0 op tid fun x hx => nomatch h0.symm.trans hx
      rcases stable_or_clash H S k (step H S k st0 op).1 ops tid (a, m) hinv1 hmid with hst | ⟨hv, op', hop', hd⟩
      · cases hst.symm.trans hfin
        exact .inl ⟨st0, op, _, List.mem_cons_self, h0, rfl, rfl, hcause⟩
      · obtain rfl : m = .lockUnlock := hv
        rw [step_chainName] at hd
        rcases hcause with ⟨_, _, _, _, _, _, _, _, _, _, _, _, _, hm, _⟩ | ⟨token, evs, rfl, _, htid, _, _⟩ |
            ⟨_, _, _, _, _, _, _, _, _, _, _, _, hm, _⟩
        · cases hm
        · cases op' with
          | deploy au ca sa n sy d su mi =>
            exact .inr ⟨token, au, ca, sa, n, sy, d, su, mi, List.mem_cons_self, List.mem_cons_of_mem _ hop', htid, hd.symm⟩
          | _ => cases hd
        · cases hm

/-- the inputs of the two id-deriving calls are host values -/
def OpWF : Op → Prop
  | .deploy _ caller salt _ _ _ _ _ => caller.WF ∧ Small salt
  | .registerCanonical token => token.WF
  | _ => True

/-- **every registry entry has one of three causes**: in ANY history, an id that was free at the start and is registered at
    the end was registered by exactly one of
    * a local deployment authorised by its caller — the id is the interchain id of (chain name, that caller, its salt), the
      manager is mint/burn and the token address is the address derived from (service, id);
    * a canonical registration — the id is the canonical id of (chain name, that token), the manager is lock/unlock and
      the token address is that token;
    * the delivery of a hub message, approved at the gateway for the service with exactly this payload, that decodes to a
      remote deployment of this very id — mint/burn manager, derived address.
    Nothing else ever writes the registry — or a hash collision is exhibited (`deploy_interchain_token` itself never looks at
    the registry: that a local deployment cannot land on the id of a canonical registration rests on the domain-separating
    prefixes and collision-freeness of the hash, see `clash_overwrites_canonical_entry`). -/
theorem registry_provenance_or_collision (st0 : State) (ops : List Op) (tid : Bytes) (addr : Addr) (mgr : Manager)
    (hc : Small st0.chainName) (hp : Small k.prefixTokenSalt) (hp' : Small k.prefixCanonicalSalt) (hp2 : Small k.prefixTokenId)
    (hh : ∀ x, Small (H x)) (hne : k.prefixTokenSalt ≠ k.prefixCanonicalSalt) (hops : ∀ op ∈ ops, OpWF op)
    (h0 : st0.registry tid = none) (hfin : (run H S k st0 ops).1.registry tid = some (addr, mgr)) :
    (∃ st op o, (st, op, o) ∈ itrace H S k st0 ops ∧ st.registry tid = none ∧ st.chainName = st0.chainName ∧ st.self = st0.self ∧
      Cause H S k tid addr mgr st op o) ∨ Collision H := by
  rcases registry_provenance_or_clash H S k st0 ops tid addr mgr h0 hfin with h |
      ⟨token, _, caller, salt, _, _, _, _, _, hr, hdp, h1, h2⟩
  · exact .inl h
  · have hw : caller.WF ∧ Small salt := hops _ hdp
    exact .inr (interchain_ne_canonical H k _ _ caller token salt hc hc hw.1 (hops _ hr) hw.2 hp hp' hp2 hh hne
      (h2.symm.trans h1))

/-- registry provenance under the hypothesis that no id is both canonical and interchain on this chain -/
theorem registry_provenance_of_no_clash (st0 : State) (ops : List Op) (tid : Bytes) (addr : Addr) (mgr : Manager)
    (hnc : ∀ token caller salt, canonicalTokenId H k st0.chainName token ≠ interchainTokenId H k st0.chainName caller salt)
    (h0 : st0.registry tid = none) (hfin : (run H S k st0 ops).1.registry tid = some (addr, mgr)) :
    ∃ st op o, (st, op, o) ∈ itrace H S k st0 ops ∧ st.registry tid = none ∧ st.chainName = st0.chainName ∧ st.self = st0.self ∧
      ((∃ auths caller salt name symbol dec supply minter evs,
          op = .deploy auths caller salt name symbol dec supply minter ∧ o = .okId tid evs ∧ caller ∈ auths ∧
          tid = interchainTokenId H k st.chainName caller salt ∧ mgr = .native ∧ addr = deployedAddress S k st.self tid) ∨
       (∃ token evs, op = .registerCanonical token ∧ o = .okId tid evs ∧
          tid = canonicalTokenId H k st.chainName token ∧ mgr = .lockUnlock ∧ addr = token) ∨
       (∃ c i sa payload origin d evs,
          op = .execute c i sa payload ∧ o = .ok evs ∧
          Abi.decodeHub payload = .ok (.receiveFromHub origin (.deploy d)) ∧ d.tokenId = tid ∧
          st.gw.approvals c i = .approved (Gateway.messageHash H ⟨c, i, sa, st.self, H payload⟩) ∧
          mgr = .native ∧ addr = deployedAddress S k st.self tid)) := by
  rcases registry_provenance_or_clash H S k st0 ops tid addr mgr h0 hfin with h |
      ⟨token, _, caller, salt, _, _, _, _, _, _, _, h1, h2⟩
  · exact h
  · exact absurd (h1.symm.trans h2) (hnc token caller salt)


section NonVacuity
open Cgp.Toy

def k0 : Consts := ⟨[104], [1], [2], [3], [4]⟩
def svc : Addr := ⟨true, List.replicate 32 8⟩
def user : Addr := ⟨false, List.replicate 32 11⟩
def canon : Addr := ⟨true, List.replicate 32 22⟩
def sac : Tok := { kind := .sac, name := [71], symbol := [71], decimals := 7, bal := fun a => if a = user then 500 else 0, owner := owner0, minter := fun _ => false, tokenId := [] }
def gw0 : Gateway.State := Gateway.initState owner0 owner0 [1] 0 0
/-- a service with an empty registry -/
def st0 : State :=
  { self := svc, owner := owner0, gatewayAddr := ⟨true, List.replicate 32 6⟩, gasService := ⟨true, List.replicate 32 5⟩,
    hubAddress := [120], chainName := [115], trusted := fun c => c == [101], registry := fun _ => none, gw := gw0,
    tokens := fun a => if a = canon then some sac else none, executable := fun _ => false }
def salt : Bytes := List.replicate 32 1
def salt2 : Bytes := List.replicate 32 2
def tid1 : Bytes := interchainTokenId H0 k0 [115] user salt
def tid2 : Bytes := interchainTokenId H0 k0 [115] user salt2
def tidR : Bytes := List.replicate 32 51
def a1 : Addr := deployedAddress S0 k0 svc tid1
def tidc : Bytes := canonicalTokenId H0 k0 [115] canon
def dep (tid : Bytes) : Abi.Deploy := ⟨tid, [84], [84], 6, none⟩
/-- a remote deploy message for `tid`, from the trusted chain "e" through the hub -/
def remoteDeploy (tid : Bytes) : Bytes :=
  match Abi.encodeHub (.receiveFromHub [101] (.deploy (dep tid))) with
  | .ok b => b
  | .error _ => []
def approveFor (id payload : Bytes) (g : Gateway.State) : Gateway.State :=
  { g with approvals := fun c i => if c = [104] ∧ i = id then .approved (Gateway.messageHash H0 ⟨[104], id, [120], svc, H0 payload⟩) else g.approvals c i }
/-- the history that fills the registry: a local deployment and a canonical registration … -/
def ops1 : List Op :=
  [ .deploy [user] user salt [84] [84] 6 100 none,
    .registerCanonical canon ]
/-- … and the history after it: every attempt to take one of the two ids again is refused, a fresh id is accepted -/
def ops2 : List Op :=
  [ .deploy [user] user salt [84] [84] 6 100 none,              -- same deployer and salt: refused
    .deploy [user] user salt [85] [85] 7 0 (some user),         -- … also with other metadata
    .registerCanonical canon,                                   -- registered already: refused
    .gateway (approveFor [49] (remoteDeploy tid1)),
    .execute [104] [49] [120] (remoteDeploy tid1),              -- an approved remote deploy message for a taken id: refused
    .deploy [user] user salt2 [85] [85] 7 0 none,               -- another salt: accepted
    .transferOwnership [owner0] user ]
def itsErr : Obs → Option Err | .err e => some e | _ => none

instance (chain tid : Bytes) (op : Op) : Decidable (DeploysId H k chain tid op) := by
  cases op <;> dsimp only [DeploysId] <;> infer_instance

theorem regInv_st0 : RegInv S0 k0 st0 :=
  fun _ _ h => nomatch h

/-- the hypotheses of `regInv_step`, `registry_write_once` (for a native and for a canonical entry), `redeploy_refused` and
    `taken_id_refused` are satisfiable, and the refusals really happen: after a local deployment and a canonical registration the
    registry holds two entries; re-deploying with the same salt, re-registering, and an approved remote deploy message for a
    taken id are refused (each for its own reason) while a fresh salt is accepted; the two entries are unchanged -/
theorem registry_write_once_nonvacuous :
    RegInv S0 k0 st0 ∧ RegInv S0 k0 (run H0 S0 k0 st0 ops1).1 ∧
    -- `taken_id_refused`, second part
    Abi.decodeHub (remoteDeploy tid1) = .ok (.receiveFromHub [101] (.deploy (dep tid1))) ∧
    ((run H0 S0 k0 st0 ops1).1.registry (dep tid1).tokenId).isSome = true ∧
    -- the first history fills the registry
    (run H0 S0 k0 st0 ops1).2.map itsErr = [none, none] ∧
    [tid1, tidc, tid2].map (fun t => (st0.registry t).isSome) = [false, false, false] ∧
    (run H0 S0 k0 st0 ops1).1.registry tid1 = some (a1, .native) ∧
    (run H0 S0 k0 st0 ops1).1.registry tidc = some (canon, .lockUnlock) ∧
    [tid1, tidc, tid2].Nodup ∧
    -- side condition of `registry_write_once`, for both entries
    ((a1, Manager.native).2 = .lockUnlock → ∀ op ∈ ops2, ¬ DeploysId H0 k0 (run H0 S0 k0 st0 ops1).1.chainName tid1 op) ∧
    ((canon, Manager.lockUnlock).2 = .lockUnlock → ∀ op ∈ ops2, ¬ DeploysId H0 k0 (run H0 S0 k0 st0 ops1).1.chainName tidc op) ∧
    -- `redeploy_refused`
    ((run H0 S0 k0 st0 ops1).1.tokens (deployedAddress S0 k0 (run H0 S0 k0 st0 ops1).1.self
        (interchainTokenId H0 k0 (run H0 S0 k0 st0 ops1).1.chainName user salt))).isSome = true ∧
    -- `taken_id_refused`, first part
    ((run H0 S0 k0 st0 ops1).1.registry (canonicalTokenId H0 k0 (run H0 S0 k0 st0 ops1).1.chainName canon)).isSome = true ∧
    -- the second history: refusals, and the entries afterwards
    (run H0 S0 k0 (run H0 S0 k0 st0 ops1).1 ops2).2.map itsErr =
      [some .deployFailed, some .deployFailed, some .tokenAlreadyRegistered, none, some .tokenAlreadyDeployed, none, none] ∧
    [tid1, tidc, tid2].map (run H0 S0 k0 (run H0 S0 k0 st0 ops1).1 ops2).1.registry =
      [some (a1, .native), some (canon, .lockUnlock), some (deployedAddress S0 k0 svc tid2, .native)] := by
  refine ⟨regInv_st0, regInv_run H0 S0 k0 _ _ regInv_st0, ?_⟩
  -- one evaluation for all the rest: the payload is then encoded and decoded once, not once per kernel run
  refine (?_ : (Abi.decodeHub (remoteDeploy tid1)).toOption = some (.receiveFromHub [101] (.deploy (dep tid1))) ∧ _).imp
    (eq_ok_of_toOption _ _) id
  decide +kernel

/-- a hash without any collision resistance (constant): the interchain id of (user, salt) and the canonical id of `canon` coincide -/
def Hc : Bytes → Bytes := fun _ => []

/-- WHY the provenance and write-once theorems carry a no-collision side condition: `deploy_interchain_token` never looks at
    the registry, so under a colliding hash a local deployment OVERWRITES a canonical registration (kernel-run) -/
theorem clash_overwrites_canonical_entry :
    canonicalTokenId Hc k0 [115] canon = interchainTokenId Hc k0 [115] user salt ∧
    (step Hc S0 k0 st0 (.registerCanonical canon)).1.registry [] = some (canon, .lockUnlock) ∧
    (run Hc S0 k0 st0 [.registerCanonical canon, .deploy [user] user salt [84] [84] 6 0 none]).1.registry [] =
      some (deployedAddress S0 k0 svc [], .native) := by
  decide +kernel

end NonVacuity

end Cgp.Props.C11
