/-
  Property C14 — the gas service holds exactly what was paid in minus what its collector paid out.
-/
import Cgp.Proofs.GasService
import Cgp.Toy
namespace Cgp.Props.C14
open Cgp.Xdr Cgp.Sac Cgp.GasService

variable (H : Bytes → Bytes)

/-- signed movement of `token` into the service caused by a SUCCESSFUL operation -/
def flow (token : Addr) : Op → Int
  | .payGas _ _ _ _ _ _ t a _ => if t = token then a else 0
  | .addGas _ _ _ _ t a => if t = token then a else 0
  | .collectFees _ _ t a => if t = token then -a else 0
  | .refund _ _ _ t a => if t = token then -a else 0
  | _ => 0

/-- the counterparty of every movement is somebody else than the service itself -/
def External (self : Addr) : Op → Prop
  | .payGas _ _ _ _ _ sp _ _ _ => sp ≠ self
  | .addGas _ _ _ sp _ _ => sp ≠ self
  | .collectFees _ r _ _ => r ≠ self
  | .refund _ _ r _ _ => r ≠ self
  | _ => True

/-- payments and top-ups received minus fees collected and refunds issued, over a history (successful operations only) -/
def netFlow (st : State) (token : Addr) : List Op → Int
  | [] => 0
  | op :: rest =>
    (match (step H st op).2 with | .ok _ => flow token op | .error _ => 0) + netFlow (step H st op).1 token rest

def BankNonNeg (b : Bank) : Prop := ∀ t h, 0 ≤ b.bal t h

theorem self_fixed (st : State) (op : Op) :
    (step H st op).1.self = st.self ∧ (step H st op).1.collector = st.collector := by
  have h := step_effect H st op
  generalize step H st op = r at h ⊢
  cases h with
  | _ => exact ⟨rfl, rfl⟩

theorem self_bal_of_transfer {b b' : Bank} {t s d self token : Addr} {a : Int} {au : Bool}
    (hb : b.transfer t s d a au = some b') (hd : d = self → s ≠ self) :
    b'.bal token self = b.bal token self + if t = token then (if d = self then a else if s = self then -a else 0) else 0 := by
  rw [Bank.transfer_bal hb]
  by_cases ht : t = token
  · by_cases h1 : d = self
    · simp only [ht, h1, hd h1, true_and, and_false, if_true, if_false]; omega
    · by_cases h2 : s = self
      · simp only [ht, h1, h2, true_and, and_false, if_true, if_false]; omega
      · simp only [ht, h1, h2, and_false, if_true, if_false]; omega
  · simp only [ht, false_and, if_false]; omega

theorem service_balance_step (st : State) (op : Op) (token : Addr) (hext : External st.self op) :
    (step H st op).1.bank.bal token st.self =
      st.bank.bal token st.self + (match (step H st op).2 with | .ok _ => flow token op | .error _ => 0) := by
  have h := step_effect H st op
  generalize step H st op = r at h ⊢
  cases h with
  | payGas _ _ hb | addGas _ _ hb => exact (self_bal_of_transfer hb fun _ => hext).trans (by rw [if_pos rfl]; rfl)
  | collectFees _ _ hb | refund _ hb =>
    exact (self_bal_of_transfer hb fun e => absurd e hext).trans (by rw [if_neg hext, if_pos rfl]; rfl)
  | userTransfer h1 h2 hb =>
    refine (self_bal_of_transfer hb fun e => absurd e h2).trans ?_
    rw [if_neg h2, if_neg h1]
    show _ = _ + 0; split <;> rfl
  | adminMint h1 hb => rw [(Bank.mint_some hb).2, Bank.credit_bal, if_neg (fun e => h1 e.2)]; rfl
  | _ => exact (Int.add_zero _).symm

/-- **balance equation over every history**, for every token -/
theorem service_balance_run (st : State) (ops : List Op) (token : Addr) (hext : ∀ op ∈ ops, External st.self op) :
    (run H st ops).bank.bal token st.self = st.bank.bal token st.self + netFlow H st token ops :=
  -- the standing invariant is that the service's own address never changes
  Run.telescope (fun w op => (step H w op).1) (run H) (fun _ => rfl) (fun _ _ _ => rfl)
    (·.self = st.self) (fun w op hw => (self_fixed H w op).1.trans hw) (External st.self)
    (·.bank.bal token st.self) _ (netFlow H · token) (fun _ => rfl) (fun _ _ _ => rfl)
    (fun w op hw hc => hw ▸ service_balance_step H w op token (hw ▸ hc)) ops st rfl hext

/-- a payment requires a positive amount, the spender's authorisation, and moves exactly that amount from the spender -/
theorem payment_exact_and_positive (st st' : State) (auths : List Addr) (sender : Addr) (chain dest payload : Bytes)
    (spender token : Addr) (amount : Int) (metadata : Bytes) (evs : List Event)
    (h : payGas H st auths sender chain dest payload spender token amount metadata = .ok (st', evs))
    (hext : spender ≠ st.self) :
    0 < amount ∧ spender ∈ auths ∧ amount ≤ st.bank.bal token spender ∧
    st'.bank.bal token spender = st.bank.bal token spender - amount ∧
    st'.bank.bal token st.self = st.bank.bal token st.self + amount ∧
    (∀ t h, ¬ (t = token ∧ (h = spender ∨ h = st.self)) → st'.bank.bal t h = st.bank.bal t h) ∧
    evs = [evGasPaid H sender chain dest payload spender token amount metadata] := by
  obtain ⟨h1, h2, ⟨b, hb, rfl⟩, h3⟩ := payGas_ok h
  obtain ⟨e1, e2⟩ := Bank.transfer_ends hb hext
  refine ⟨h2, h1, (Bank.transfer_some hb).2.2.2.1, e1, e2, fun t x hn => ?_, h3⟩
  rw [Bank.transfer_bal hb, if_neg (fun e => hn ⟨e.1.symm, .inr e.2.symm⟩), if_neg (fun e => hn ⟨e.1.symm, .inl e.2.symm⟩)]
  omega

theorem topup_exact_and_positive (st st' : State) (auths : List Addr) (sender : Addr) (msgId : Bytes)
    (spender token : Addr) (amount : Int) (evs : List Event)
    (h : addGas st auths sender msgId spender token amount = .ok (st', evs)) (hext : spender ≠ st.self) :
    0 < amount ∧ spender ∈ auths ∧
    st'.bank.bal token spender = st.bank.bal token spender - amount ∧
    st'.bank.bal token st.self = st.bank.bal token st.self + amount ∧
    evs = [evGasAdded sender msgId spender token amount] := by
  obtain ⟨h1, h2, ⟨b, hb, rfl⟩, h3⟩ := addGas_ok h
  obtain ⟨e1, e2⟩ := Bank.transfer_ends hb hext
  exact ⟨h2, h1, e1, e2, h3⟩

/-- fee collection: collector only, positive amount, never more than the service holds, exact movement, one event -/
theorem collect_exact (st st' : State) (auths : List Addr) (receiver token : Addr) (amount : Int) (evs : List Event)
    (h : collectFees st auths receiver token amount = .ok (st', evs)) (hext : receiver ≠ st.self) :
    st.collector ∈ auths ∧ 0 < amount ∧ amount ≤ st.bank.bal token st.self ∧
    st'.bank.bal token st.self = st.bank.bal token st.self - amount ∧
    st'.bank.bal token receiver = st.bank.bal token receiver + amount ∧
    evs = [evCollected st.collector token amount] := by
  obtain ⟨h1, h2, ⟨b, hb, rfl⟩, h3⟩ := collectFees_ok h
  obtain ⟨e1, e2⟩ := Bank.transfer_ends hb (Ne.symm hext)
  exact ⟨h1, h2, (Bank.transfer_some hb).2.2.2.1, e1, e2, h3⟩

theorem refund_exact (st st' : State) (auths : List Addr) (msgId : Bytes) (receiver token : Addr) (amount : Int)
    (evs : List Event)
    (h : refund st auths msgId receiver token amount = .ok (st', evs)) (hext : receiver ≠ st.self) :
    st.collector ∈ auths ∧ 0 ≤ amount ∧ amount ≤ st.bank.bal token st.self ∧
    st'.bank.bal token st.self = st.bank.bal token st.self - amount ∧
    st'.bank.bal token receiver = st.bank.bal token receiver + amount ∧
    evs = [evRefunded msgId receiver token amount] := by
  obtain ⟨h1, ⟨b, hb, rfl⟩, h3⟩ := refund_ok h
  obtain ⟨-, -, h2, h4, -⟩ := Bank.transfer_some hb
  obtain ⟨e1, e2⟩ := Bank.transfer_ends hb (Ne.symm hext)
  exact ⟨h1, h2, h4, e1, e2, h3⟩

/-- only the gas collector can move funds out: if any operation lowers the service's balance of any token,
    it is a collect or refund call that the collector authorised -/
theorem only_collector_pays_out (st : State) (op : Op) (token : Addr)
    (h : (step H st op).1.bank.bal token st.self < st.bank.bal token st.self) :
    st.collector ∈ (match op with
      | .collectFees au _ _ _ => au
      | .refund au _ _ _ _ => au
      | _ => []) := by
  have he := step_effect H st op
  generalize step H st op = r at he h
  cases he with
  | collectFees hc _ _ | refund hc _ => exact hc
  | payGas _ _ hb | addGas _ _ hb => exact absurd rfl (Bank.transfer_lowers hb h).2
  | userTransfer h1 _ hb => exact absurd (Bank.transfer_lowers hb h).1 h1
  | adminMint _ hb =>
    obtain ⟨h0, rfl⟩ := Bank.mint_some hb
    rw [Bank.credit_bal] at h
    split at h <;> omega
  | _ => exact absurd h (Int.lt_irrefl _)

theorem BankNonNeg.transfer {b b' : Bank} (h : BankNonNeg b) {t s d : Addr} {a : Int} {au : Bool}
    (hb : b.transfer t s d a au = some b') : BankNonNeg b' := by
  intro tok x
  obtain ⟨-, -, h0, h1, -⟩ := Bank.transfer_some hb
  have := h tok x
  rw [Bank.transfer_bal hb]
  by_cases hs : t = tok ∧ s = x
  · rw [if_pos hs]; obtain ⟨rfl, rfl⟩ := hs; split <;> omega
  · rw [if_neg hs]; split <;> omega

theorem BankNonNeg.mint {b b' : Bank} (h : BankNonNeg b) {t d : Addr} {a : Int}
    (hb : b.mint t d a = some b') : BankNonNeg b' := by
  intro tok x
  obtain ⟨h0, rfl⟩ := Bank.mint_some hb
  have := h tok x
  rw [Bank.credit_bal]; split <;> omega

theorem nonneg_step (st : State) (op : Op) (h : BankNonNeg st.bank) : BankNonNeg (step H st op).1.bank := by
  have he := step_effect H st op
  generalize step H st op = r at he ⊢
  cases he with
  | payGas _ _ hb | addGas _ _ hb | collectFees _ _ hb | refund _ hb | userTransfer _ _ hb => exact h.transfer hb
  | adminMint _ hb => exact h.mint hb
  | _ => exact h

/-- never overdrawn: no balance (of the service or anyone) ever becomes negative, over every history -/
theorem nonneg_run (st : State) (ops : List Op) (h : BankNonNeg st.bank) : BankNonNeg (run H st ops).bank :=
  Run.invariant (fun st op => (step H st op).1) (run H) (fun _ => rfl) (fun _ _ _ => rfl) (BankNonNeg ·.bank)
    (nonneg_step H) ops st h

theorem rejected_moves_nothing (st : State) (op : Op) (e : Err) (h : (step H st op).2 = .error e) :
    (step H st op).1 = st :=
  step_err H st op e h

/-- non-positive payments are rejected -/
theorem nonpositive_payment_rejected (st : State) (auths : List Addr) (sender : Addr) (chain dest payload : Bytes)
    (spender token : Addr) (amount : Int) (metadata : Bytes) (h : amount ≤ 0) :
    (∃ e, payGas H st auths sender chain dest payload spender token amount metadata = .error e) ∧
    (∃ e, addGas st auths sender chain spender token amount = .error e) :=
  ⟨error_of_not_ok fun _ hr => Int.not_lt.2 h (payGas_ok hr).2.1,
   error_of_not_ok fun _ hr => Int.not_lt.2 h (addGas_ok hr).2.1⟩

/-- the owner's administrative step — upgrade to the same code and migration — moves no funds and changes no role, whether it is
    accepted or refused; it is accepted only with the owner's authorisation (the history theorems above range over this operation) -/
theorem admin_step_changes_nothing (st : State) (auths : List Addr) :
    (step H st (.upgradeMigrate auths)).1 = st ∧
    (∀ r, apply H st (.upgradeMigrate auths) = .ok r → r = (st, []) ∧ st.owner ∈ auths) :=
  ⟨step_upgradeMigrate_fst, fun _ => apply_upgradeMigrate_ok⟩

section NonVacuity
open Cgp.Toy

def svcG : Addr := ⟨true, List.replicate 32 5⟩
def coll : Addr := ⟨false, List.replicate 32 6⟩
def user : Addr := ⟨false, List.replicate 32 11⟩
def other : Addr := ⟨false, List.replicate 32 12⟩
def app : Addr := ⟨true, List.replicate 32 9⟩
def gasTok : Addr := ⟨true, List.replicate 32 21⟩
def noTok : Addr := ⟨true, List.replicate 32 22⟩
/-- one gas token; the user holds 1000 of it -/
def bank0 : Bank := { isToken := fun a => a == gasTok, bal := fun t h => if t = gasTok ∧ h = user then 1000 else 0 }
def st0 : State := { self := svcG, owner := owner0, collector := coll, bank := bank0 }
def opsG : List Op :=
  [ .payGas [user] app [100] [101] [1, 2] user gasTok 50 [],            -- +50
    .addGas [user] app [49] user gasTok 20,                             -- +20
    .collectFees [coll] coll gasTok 30,                                 -- −30
    .refund [coll] [49] user gasTok 10,                                 -- −10
    .collectFees [coll] coll gasTok 100,                                -- more than held (30): refused
    .refund [coll] [49] user gasTok 1000,                               -- more than held: refused
    .collectFees [user] user gasTok 5,                                  -- not the collector: refused
    .refund [user] [49] user gasTok 5,                                  -- not the collector: refused
    .payGas [user] app [100] [101] [1, 2] user gasTok 0 [],             -- zero amount: refused
    .payGas [] app [100] [101] [1, 2] user gasTok 5 [],                 -- no authorisation of the spender: refused
    .payGas [user] app [100] [101] [1, 2] user gasTok 5000 [],          -- more than the spender has: refused
    .addGas [user] app [49] user noTok 5,                               -- no such token: refused
    .userTransfer gasTok user other 100 true,                           -- environment: does not touch the service
    .adminMint gasTok other 7 ]
/-- what each call of a history returned: `none` = success -/
def outcomes (st : State) : List Op → List (Option Err)
  | [] => []
  | op :: rest => (match (step H st op).2 with | .ok _ => none | .error e => some e) :: outcomes (step H st op).1 rest

instance (self : Addr) (op : Op) : Decidable (External self op) := by
  cases op <;> simp only [External] <;> infer_instance

theorem bankNonNeg_st0 : BankNonNeg st0.bank := by
  intro t h
  simp only [st0, bank0]
  split <;> decide

/-- the hypotheses of `service_balance_run` and `nonneg_run` are satisfiable and the equation is not `0 = 0`: a payment (50), a
    top-up (20), a fee collection (30), a refund (10), then eight refused calls — among them a collection and a refund of more
    than the service holds — and two environment moves.  `External` holds for every operation, the net flow is 30 and so is the
    service's balance; every balance involved is non-negative. -/
theorem gas_history_nonvacuous :
    BankNonNeg st0.bank ∧
    (∀ op ∈ opsG, External st0.self op) ∧
    outcomes H0 st0 opsG =
      [none, none, none, none, some .insufficientBalance, some .tokenCallFailed, some .unauthorized, some .unauthorized,
       some .invalidAmount, some .unauthorized, some .tokenCallFailed, some .tokenCallFailed, none, none] ∧
    st0.bank.bal gasTok st0.self = 0 ∧ netFlow H0 st0 gasTok opsG = 30 ∧ (run H0 st0 opsG).bank.bal gasTok st0.self = 30 ∧
    [svcG, user, coll, other].map ((run H0 st0 opsG).bank.bal gasTok) = [30, 840, 30, 107] ∧
    netFlow H0 st0 noTok opsG = 0 ∧ (run H0 st0 opsG).bank.bal noTok st0.self = 0 ∧
    -- the balance equation along the way: after the payment and the top-up, before any payout
    netFlow H0 st0 gasTok (opsG.take 2) = 70 ∧ (run H0 st0 (opsG.take 2)).bank.bal gasTok st0.self = 70 ∧
    -- `only_collector_pays_out`: the collection lowers the service's balance
    (step H0 (run H0 st0 (opsG.take 2)) (.collectFees [coll] coll gasTok 30)).1.bank.bal gasTok st0.self <
      (run H0 st0 (opsG.take 2)).bank.bal gasTok st0.self ∧
    -- `payment_exact_and_positive` / `collect_exact` / `refund_exact`: successful calls
    (∃ st' evs, payGas H0 st0 [user] app [100] [101] [1, 2] user gasTok 50 [] = .ok (st', evs)) ∧ user ≠ st0.self ∧
    (∃ st' evs, collectFees (run H0 st0 (opsG.take 2)) [coll] coll gasTok 30 = .ok (st', evs)) ∧
    (∃ st' evs, refund (run H0 st0 (opsG.take 3)) [coll] [49] user gasTok 10 = .ok (st', evs)) ∧
    coll ≠ (run H0 st0 (opsG.take 2)).self :=
  ⟨bankNonNeg_st0, by decide +kernel⟩

end NonVacuity

end Cgp.Props.C14
