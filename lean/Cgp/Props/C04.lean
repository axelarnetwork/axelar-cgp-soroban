/-
  Property C04 — the token service acts only on approved, well-formed hub messages from trusted chains, and on each
  at most once; at the end the same for the service inside the whole system, with the gateway model's own operations.
-/
import Cgp.Proofs.Its
import Cgp.Props.C10
import Cgp.System
import Cgp.Props.C01
namespace Cgp.Props.C04
open Cgp.Xdr Cgp.Its

variable (H : Bytes → Bytes) (S : Bytes → Bytes) (k : Consts)

/-- the gateway message the service claims to be executing -/
def claimed (st : State) (c i sa payload : Bytes) : Gateway.Message :=
  { sourceChain := c, messageId := i, sourceAddress := sa, contract := st.self, payloadHash := H payload }

/-- acceptance needs an unexecuted gateway approval of EXACTLY this payload for the service … -/
theorem execute_needs_approval (st : State) (c i sa payload : Bytes) (r : State × List Event)
    (h : execute H S k st c i sa payload = .ok r) :
    st.gw.approvals c i = .approved (Gateway.messageHash H (claimed H st c i sa payload)) :=
  (execute_ok_iff.mp h).1

/-- … and consumes it … -/
theorem execute_consumes (st st' : State) (c i sa payload : Bytes) (evs : List Event)
    (h : execute H S k st c i sa payload = .ok (st', evs)) :
    st'.gw.approvals c i = .executed ∧
    (∀ c' i', ¬ (c' = c ∧ i' = i) → st'.gw.approvals c' i' = st.gw.approvals c' i') := by
  rw [show st'.gw = _ from execute_gw h]
  exact ⟨Gateway.consumed_self .., fun _ _ hne => Gateway.consumed_other hne⟩

/-- … so each message takes effect at most once: after a successful delivery the same (chain, id) can never be
    delivered again, whatever source address or payload is presented -/
theorem execute_once (st st' : State) (c i sa payload : Bytes) (evs : List Event)
    (h : execute H S k st c i sa payload = .ok (st', evs)) (sa2 payload2 : Bytes) :
    ∃ e, execute H S k st' c i sa2 payload2 = .error e := by
  refine error_of_not_ok fun r h2 => ?_
  have h3 := (execute_ok_iff.mp h2).1
  rw [(execute_consumes H S k st st' c i sa payload evs h).1] at h3
  cases h3

/-- what a delivered payload must be for the service to act: hub chain, a CANONICAL receive-from-hub wrapper (re-encoding
    reproduces the payload exactly, so truncated or padded payloads are out) around a supported message, naming a
    currently trusted origin chain; for transfers a registered token, a decodable recipient and an amount in range; for
    deployments a free id, representable metadata and a decodable minter -/
theorem execute_conditions (st : State) (c i sa payload : Bytes) (r : State × List Event)
    (h : execute H S k st c i sa payload = .ok r) :
    c = k.hubChain ∧
    ∃ origin inner, Abi.decodeHub payload = .ok (.receiveFromHub origin inner) ∧
      Abi.encodeHub (.receiveFromHub origin inner) = .ok payload ∧
      st.trusted origin = true ∧
      (match inner with
       | .transfer t => (st.registry t.tokenId).isSome = true ∧ (addrFromXdr t.dest).isSome = true ∧
                        0 ≤ t.amount ∧ t.amount < 2 ^ 127
       | .deploy d => st.registry d.tokenId = none ∧ validMetadata d.name d.symbol d.decimals = true ∧
                      (∀ m, d.minter = some m → (addrFromXdr m).isSome = true)) := by
  obtain ⟨-, -, hc, origin, inner, hdec, htr, hr⟩ := execute_ok_iff.mp h
  obtain ⟨henc, hwf, -⟩ := Cgp.Props.C10.decodeHub_canonical payload _ hdec
  refine ⟨hc, origin, inner, hdec, henc, htr, ?_⟩
  cases inner with
  | transfer t =>
    obtain ⟨_, _, _, h1, h2, -⟩ := recvTransfer_ok_iff.mp hr
    have hw : (Abi.Msg.transfer t).wf := hwf.2
    exact ⟨by rw [h2]; rfl, by rw [h1]; rfl, hw.2.1, hw.2.2⟩
  | deploy d =>
    obtain ⟨h1, h2, h3, -⟩ := recvDeploy_ok_iff.mp hr
    exact ⟨h1, h2, h3⟩

/-- every rejected delivery leaves all balances, token registrations and the gateway's approval record untouched -/
theorem execute_rejected_unchanged (st : State) (c i sa payload : Bytes) (e : Err)
    (h : (step H S k st (.execute c i sa payload)).2 = .err e) :
    (step H S k st (.execute c i sa payload)).1 = st :=
  step_err H S k st _ e h

/-- untrusted origin, wrong source chain, unknown token: rejected -/
theorem execute_rejects (st : State) (c i sa payload : Bytes) :
    (c ≠ k.hubChain → ∃ e, execute H S k st c i sa payload = .error e) ∧
    (∀ origin inner, Abi.decodeHub payload = .ok (.receiveFromHub origin inner) → st.trusted origin = false →
        ∃ e, execute H S k st c i sa payload = .error e) ∧
    (∀ origin t, Abi.decodeHub payload = .ok (.receiveFromHub origin (.transfer t)) → st.registry t.tokenId = none →
        ∃ e, execute H S k st c i sa payload = .error e) ∧
    (∀ chain inner, Abi.decodeHub payload = .ok (.sendToHub chain inner) → ∃ e, execute H S k st c i sa payload = .error e) := by
  refine ⟨fun hne => ?_, fun origin inner hd hu => ?_, fun origin t hd hu => ?_, fun chain inner hd => ?_⟩
  all_goals
    refine error_of_not_ok fun r hx => ?_
    obtain ⟨-, -, hc, o', i', hdec, htr, hr⟩ := execute_ok_iff.mp hx
  · exact hne hc
  · rw [hd] at hdec; cases hdec
    rw [hu] at htr; cases htr
  · rw [hd] at hdec; cases hdec
    obtain ⟨_, _, _, -, h2, -⟩ := recvTransfer_ok_iff.mp hr
    rw [hu] at h2; cases h2
  · rw [hd] at hdec; cases hdec

/-- successful deliveries in a history, per (chain, id) -/
def deliveries (c i : Bytes) : List Op → List Obs → Nat
  | (.execute c' i' _ _) :: ops, (.ok _) :: os => deliveries c i ops os + (if c' = c ∧ i' = i then 1 else 0)
  | _ :: ops, _ :: os => deliveries c i ops os
  | _, _ => 0

/-- gateway activity that respects the gateway's own discipline: an executed message stays executed -/
def Monotone (f : Gateway.State → Gateway.State) : Prop :=
  ∀ g c i, g.approvals c i = .executed → (f g).approvals c i = .executed

def GatewayOk : Op → Prop
  | .gateway f => Monotone f
  | _ => True

theorem deliveries_cons (c i : Bytes) (op : Op) (ops : List Op) (o : Obs) (os : List Obs) :
    deliveries c i (op :: ops) (o :: os) = deliveries c i ops os + deliveries c i [op] [o] := by
  cases op with
  | execute c' i' sa p =>
    cases o with
    | ok evs => exact (congrArg _ (Nat.zero_add _)).symm
    | _ => rfl
  | _ => rfl

theorem delivery_once (c i : Bytes) (st : State) (op : Op) (ht : deliveries c i [op] [(step H S k st op).2] ≠ 0) :
    ¬ st.gw.approvals c i = .executed ∧ (step H S k st op).1.gw.approvals c i = .executed ∧
    deliveries c i [op] [(step H S k st op).2] = 1 := by
  cases op with
  | execute c' i' sa p =>
    cases ho : (step H S k st (.execute c' i' sa p)).2 with
    | ok evs =>
      rw [ho] at ht
      by_cases hci : c' = c ∧ i' = i
      · obtain ⟨rfl, rfl⟩ := hci
        have hex := wrapEv_ok ho
        refine ⟨?_, (execute_consumes H S k _ _ _ _ _ _ _ hex).1, congrArg _ (if_pos ⟨rfl, rfl⟩)⟩
        rw [execute_needs_approval H S k _ _ _ _ _ _ hex]
        nofun
      · exact absurd (congrArg _ (if_neg hci)) ht
    | _ => rw [ho] at ht; exact absurd rfl ht
  | _ => exact absurd rfl ht

theorem step_keeps_executed (c i : Bytes) (st : State) (op : Op) (hop : GatewayOk op)
    (hx : st.gw.approvals c i = .executed) : (step H S k st op).1.gw.approvals c i = .executed := by
  rcases step_gw H S k st op with h | ⟨f, rfl⟩ | ⟨c', i', _, _, _, -, -, happ, h⟩
  · rw [h]; exact hx
  · exact hop st.gw c i hx
  · rw [h]; exact (Proofs.C02.consumed_adv st.gw happ c i).executed hx

/-- **exactly once over every history** (the gateway never un-executes a message — proved for the real gateway in C02) -/
theorem effect_at_most_once (st : State) (ops : List Op) (c i : Bytes) (hg : ∀ op ∈ ops, GatewayOk op) :
    deliveries c i ops (run H S k st ops).2 ≤ 1 :=
  (Run.count_le_one (fun st op => (step H S k st op).1) (fun st ops => deliveries c i ops (run H S k st ops).2)
    (fun _ => rfl) (fun _ op ops => deliveries_cons c i op ops _ _) (fun st => st.gw.approvals c i = .executed) GatewayOk
    (fun st op => step_keeps_executed H S k c i st op) (delivery_once H S k c i) ops st hg).1

/-- THE HUB ADDRESS IS NEVER COMPARED (known finding): the acceptance of a delivery does not depend on the configured hub
    address at all — changing it changes nothing about whether a delivery is accepted -/
theorem hub_address_not_checked (st : State) (other : Bytes) (c i sa payload : Bytes) :
    (∃ r, execute H S k st c i sa payload = .ok r) ↔
    (∃ r, execute H S k { st with hubAddress := other } c i sa payload = .ok r) :=
  ⟨fun ⟨_, h⟩ => ⟨_, execute_hubAddress other h⟩,
    fun ⟨_, h⟩ => ⟨_, execute_hubAddress (st := { st with hubAddress := other }) st.hubAddress h⟩⟩

section SystemLevel
variable {σ : Type} (V : Bytes → Bytes → σ → Bool)

/-- the system starts with a freshly constructed gateway (typed initial signer sets) inside -/
def Started (w0 : System.World) : Prop :=
  ∃ (owner operator : Addr) (domain : Bytes) (minDelay retention : Nat) (sets : List Gateway.WSigners),
    (∀ ws ∈ sets, ws.Typed) ∧
    Gateway.constructed H owner operator domain minDelay retention sets w0.now = some ⟨w0.its.gw, w0.now⟩

theorem sys_step_its (w : System.World) (op : Op) (hng : ∀ f, op ≠ .gateway f) :
    System.step H S V k w (.its op) =
      ({ w with its := (step H S k w.its op).1 }, .its (step H S k w.its op).2) := by
  cases op with
  | gateway f => exact absurd rfl (hng f)
  | _ => rfl

/-- what a service call does to the gateway inside the system is what one call of the gateway model does: nothing
    (`setTime` to the present), or the service consuming an approval of its own -/
theorem sys_its_as_gateway (w : System.World) (op : Op) :
    ∃ g : Gateway.Op σ, g.Typed ∧ (∀ ms pf, g ≠ .approve ms pf) ∧
      (System.step H S V k w (.its op)).1.its.gw = (Gateway.step H V ⟨w.its.gw, w.now⟩ g).1.st := by
  by_cases hg : ∃ f, op = .gateway f
  · obtain ⟨f, rfl⟩ := hg
    exact ⟨.setTime w.now, trivial, nofun, rfl⟩
  · rw [sys_step_its H S k V w op fun f h => hg ⟨f, h⟩]
    rcases step_gw H S k w.its op with h | h | ⟨c, i, sa, p, _, -, -, happ, h⟩
    · exact ⟨.setTime w.now, trivial, nofun, h⟩
    · exact absurd h hg
    · refine ⟨.validateMessage [w.its.self] w.its.self c i sa (H p), trivial, nofun, ?_⟩
      simp only [Gateway.step, Gateway.validateMessage_eq (List.mem_singleton.mpr rfl), if_pos happ, h]

theorem sys_step_inv (w : System.World) (op : System.Op σ) (hty : System.TypedOp op)
    (hinv : Cgp.Proofs.C03H.AInv H w.its.gw) :
    Cgp.Proofs.C03H.AInv H (System.step H S V k w op).1.its.gw := by
  cases op with
  | gw g => exact Cgp.Proofs.C03H.AInv_step H V ⟨w.its.gw, w.now⟩ g hty hinv
  | its io =>
    obtain ⟨g, hg, -, h⟩ := sys_its_as_gateway H S k V w io
    exact h ▸ Cgp.Proofs.C03H.AInv_step H V ⟨w.its.gw, w.now⟩ g hg hinv

theorem sys_step_approved (w : System.World) (op : System.Op σ) (hty : System.TypedOp op)
    (hinv : Cgp.Proofs.C03H.AInv H w.its.gw) (c i h : Bytes)
    (h1 : (System.step H S V k w op).1.its.gw.approvals c i = .approved h) :
    w.its.gw.approvals c i = .approved h ∨
    (∃ ms proof gevs m, op = .gw (.approve ms proof) ∧ (System.step H S V k w op).2 = .gw (.ok gevs) ∧ m ∈ ms ∧
        m.sourceChain = c ∧ m.messageId = i ∧ Gateway.messageHash H m = h ∧
        Gateway.ProofValid H V w.its.gw (Gateway.approveDataHash H ms) proof) ∨ Gateway.Collision H := by
  cases op with
  | gw g =>
    rcases Cgp.Props.C01.step_approved H V ⟨w.its.gw, w.now⟩ g hty hinv c i h h1 with
      h2 | ⟨ms, proof, evs, m, rfl, hobs, hr⟩ | hcol
    · exact .inl h2
    · exact .inr (.inl ⟨ms, proof, evs, m, rfl, congrArg System.Obs.gw hobs, hr⟩)
    · exact .inr (.inr hcol)
  | its io =>
    obtain ⟨g, hg, hna, hw⟩ := sys_its_as_gateway H S k V w io
    rcases Cgp.Props.C01.step_approved H V ⟨w.its.gw, w.now⟩ g hg hinv c i h (hw ▸ h1) with
      h2 | ⟨ms, proof, _, _, hop, -⟩ | hcol
    · exact .inl h2
    · exact absurd hop (hna ms proof)
    · exact .inr (.inr hcol)

/-- **every delivery the service acts on was signed**: in every history of the whole system that starts from a freshly
    constructed gateway, each successful `execute` is preceded by a successful `approve_messages` call whose batch
    contains a message with this (chain, id) and the same message hash as the delivery the service claims to be
    executing, and whose proof was valid at that moment — signatures of a registered, still-retained signer set with
    combined weight reaching its threshold over the digest binding domain, set and batch (`ProofValid`, C01) — or a
    hash collision is exhibited. -/
theorem delivery_was_signed (w0 : System.World) (hs : Started H w0) (ops : List (System.Op σ))
    (hty : ∀ op ∈ ops, System.TypedOp op)
    (pre post : List (System.World × System.Op σ × System.Obs)) (w : System.World)
    (c i sa payload : Bytes) (evs : List Event)
    (ht : System.trace H S V k w0 ops = pre ++ (w, .its (.execute c i sa payload), .its (.ok evs)) :: post) :
    (∃ wa ms proof gevs m,
        (wa, System.Op.gw (.approve ms proof), System.Obs.gw (.ok gevs)) ∈ pre ∧ m ∈ ms ∧
        m.sourceChain = c ∧ m.messageId = i ∧
        Gateway.messageHash H m = Gateway.messageHash H (claimed H w.its c i sa payload) ∧
        Gateway.ProofValid H V wa.its.gw (Gateway.approveDataHash H ms) proof)
    ∨ Gateway.Collision H := by
  obtain ⟨owner, operator, domain, minDelay, retention, sets, hsets, hc⟩ := hs
  have hinv := (Cgp.Proofs.C03H.AInv_auth H).constructed (w0 := ⟨w0.its.gw, w0.now⟩) hsets hc
  have h0 := Gateway.constructed_no_approvals H (w0 := ⟨w0.its.gw, w0.now⟩) hc c i
  rcases Run.origin_at (fun w op => (System.step H S V k w op).1) (fun w op => (System.step H S V k w op).2)
      (System.trace H S V k) (fun _ => rfl) (fun _ _ _ => rfl) (I := fun w => Cgp.Proofs.C03H.AInv H w.its.gw)
      (T := System.TypedOp) (C := Gateway.Collision H)
      (F := fun w' => w'.its.gw.approvals c i = .approved (Gateway.messageHash H (claimed H w.its c i sa payload)))
      (G := fun e => ∃ ms proof gevs m, e.2.1 = .gw (.approve ms proof) ∧ e.2.2 = .gw (.ok gevs) ∧ m ∈ ms ∧
        m.sourceChain = c ∧ m.messageId = i ∧
        Gateway.messageHash H m = Gateway.messageHash H (claimed H w.its c i sa payload) ∧
        Gateway.ProofValid H V e.1.its.gw (Gateway.approveDataHash H ms) proof)
      (sys_step_inv H S k V) (fun w' op hop hinv => sys_step_approved H S k V w' op hop hinv c i _) ops w0 hinv hty
      pre post _ ht (fun hb => execute_needs_approval H S k _ _ _ _ _ _ (wrapEv_ok (System.Obs.its.inj hb)))
    with h | ⟨⟨wa, op, o⟩, hx, ms, proof, gevs, m, rfl, rfl, hr⟩ | h
  · rw [h0] at h; cases h
  · exact Or.inl ⟨wa, ms, proof, gevs, m, hx, hr⟩
  · exact Or.inr h

/-- successful deliveries of (chain, id) in a system history -/
def sysDeliveries (c i : Bytes) : List (System.World × System.Op σ × System.Obs) → Nat
  | (_, .its (.execute c' i' _ _), .its (.ok _)) :: t => sysDeliveries c i t + (if c' = c ∧ i' = i then 1 else 0)
  | _ :: t => sysDeliveries c i t
  | [] => 0

theorem sysDeliveries_cons (c i : Bytes) (e : System.World × System.Op σ × System.Obs)
    (t : List (System.World × System.Op σ × System.Obs)) :
    sysDeliveries c i (e :: t) = sysDeliveries c i t + sysDeliveries c i [e] := by
  obtain ⟨w, op, o⟩ := e
  cases op with
  | gw g => rfl
  | its io =>
    cases io with
    | execute c' i' sa p =>
      cases o with
      | gw _ => rfl
      | its oo =>
        cases oo with
        | ok evs => exact (congrArg _ (Nat.zero_add _)).symm
        | _ => rfl
    | _ => rfl

theorem sysDeliveries_its (c i : Bytes) (w : System.World) (io : Op) (o : Obs) :
    sysDeliveries (σ := σ) c i [(w, .its io, .its o)] = deliveries c i [io] [o] := by
  cases io <;> cases o <;> rfl

theorem sys_delivery_once (c i : Bytes) (w : System.World) (op : System.Op σ)
    (ht : sysDeliveries c i [(w, op, (System.step H S V k w op).2)] ≠ 0) :
    ¬ w.its.gw.approvals c i = .executed ∧ (System.step H S V k w op).1.its.gw.approvals c i = .executed ∧
    sysDeliveries c i [(w, op, (System.step H S V k w op).2)] = 1 := by
  cases op with
  | gw g => exact absurd rfl ht
  | its io =>
    by_cases hg : ∃ f, io = .gateway f
    · obtain ⟨f, rfl⟩ := hg
      exact absurd rfl ht
    · rw [sys_step_its H S k V w io fun f h => hg ⟨f, h⟩, sysDeliveries_its] at ht ⊢
      exact delivery_once H S k c i w.its io ht

theorem sys_keeps_executed (c i : Bytes) (w : System.World) (op : System.Op σ)
    (hx : w.its.gw.approvals c i = .executed) :
    (System.step H S V k w op).1.its.gw.approvals c i = .executed := by
  cases op with
  | gw g => exact Cgp.Proofs.C02.step_executed H V ⟨w.its.gw, w.now⟩ g c i hx
  | its io =>
    obtain ⟨g, -, -, h⟩ := sys_its_as_gateway H S k V w io
    exact h ▸ Cgp.Proofs.C02.step_executed H V ⟨w.its.gw, w.now⟩ g c i hx

/-- **exactly once, with the real gateway**: in every history of the whole system (any starting state, any gateway
    operations — approvals, re-approvals, rotations, other applications consuming messages — in between) a (chain, id)
    is delivered to the service at most once. No assumption about the gateway is left: its discipline is C02's theorem. -/
theorem system_effect_at_most_once (w0 : System.World) (ops : List (System.Op σ)) (c i : Bytes) :
    sysDeliveries c i (System.trace H S V k w0 ops) ≤ 1 :=
  (Run.count_le_one (fun w op => (System.step H S V k w op).1)
    (fun w ops => sysDeliveries c i (System.trace H S V k w ops)) (fun _ => rfl)
    (fun _ _ _ => sysDeliveries_cons c i _ _) (fun w => w.its.gw.approvals c i = .executed) (fun _ => True)
    (fun w op _ => sys_keeps_executed H S k V c i w op) (sys_delivery_once H S k V c i) ops w0 fun _ _ => trivial).1

/-- what the service does never disturbs the gateway's signer bookkeeping: after any service operation the gateway's
    epoch, signer lookups, owner, operator and clock are what they were -/
theorem service_keeps_gateway_auth (w : System.World) (op : Its.Op) :
    let w' := (System.step H S V k w (.its op)).1
    w'.its.gw.epoch = w.its.gw.epoch ∧ w'.its.gw.hashByEpoch = w.its.gw.hashByEpoch ∧
    w'.its.gw.epochByHash = w.its.gw.epochByHash ∧ w'.its.gw.owner = w.its.gw.owner ∧
    w'.its.gw.operator = w.its.gw.operator ∧ w'.its.gw.lastRot = w.its.gw.lastRot ∧ w'.now = w.now := by
  dsimp only
  by_cases hg : ∃ f, op = .gateway f
  · obtain ⟨f, rfl⟩ := hg
    exact ⟨rfl, rfl, rfl, rfl, rfl, rfl, rfl⟩
  · rw [sys_step_its H S k V w op fun f h => hg ⟨f, h⟩]
    -- the service leaves the gateway state alone, or consumes one approval: neither touches the signer bookkeeping
    rcases step_gw H S k w.its op with h | h | ⟨c, i, _, _, _, -, -, -, h⟩
    · rw [h]; exact ⟨rfl, rfl, rfl, rfl, rfl, rfl, rfl⟩
    · exact absurd h hg
    · rw [h]; exact ⟨rfl, rfl, rfl, rfl, rfl, rfl, rfl⟩

end SystemLevel

section NonVacuity
open Cgp.Toy

def k0 : Consts := ⟨[104], [1], [2], [3], [4]⟩
def svc : Addr := ⟨true, List.replicate 32 8⟩
def its0 (gw : Gateway.State) : State :=
  { self := svc, owner := owner0, gatewayAddr := ⟨true, List.replicate 32 6⟩, gasService := ⟨true, List.replicate 32 5⟩,
    hubAddress := [120], chainName := [115], trusted := fun c => c == [101], registry := fun _ => none, gw := gw,
    tokens := fun _ => none, executable := fun _ => false }
/-- a canonical remote-deployment message from the trusted chain "e" -/
def payload0 : Bytes :=
  match Abi.encodeHub (.receiveFromHub [101] (.deploy ⟨List.replicate 32 5, [84], [84], 6, none⟩)) with
  | .ok b => b
  | .error _ => []
def mI : Gateway.Message := ⟨[104], [49], [120], svc, H0 payload0⟩
def isOk : System.Obs → Bool
  | .gw (.ok _) => true
  | .its (.ok _) => true
  | _ => false

/-- the hypotheses of `delivery_was_signed` are satisfiable: on a freshly constructed gateway, a signed approval followed by
    the delivery of a remote-deployment message to the service — both succeed in the composite model, and a second
    delivery of the same message is refused -/
theorem delivery_was_signed_nonvacuous :
    ∃ g0, Gateway.constructed H0 owner0 owner0 [1] 0 0 [ws0] 5 = some g0 ∧
      ((System.trace H0 S0 V0 k0 ⟨its0 g0.st, 5⟩
          [.gw (.approve [mI] pf0), .its (.execute [104] [49] [120] payload0), .its (.execute [104] [49] [120] payload0)]).map
            (fun t => isOk t.2.2)) = [true, true, false] := by
  refine exists_of_isSome (by decide +kernel) ?_
  decide +kernel

end NonVacuity

end Cgp.Props.C04
