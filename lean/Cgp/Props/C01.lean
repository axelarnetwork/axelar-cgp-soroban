/-
  Property C01 — approvals need threshold-weight signatures from a live signer set.
-/
import Cgp.Props.C02
import Cgp.Props.C03
namespace Cgp.Props.C01
open Cgp.Xdr Cgp.Gateway

open Cgp.Proofs.C03H (AInv AInv_step AInv_auth accepted_set proofValid_of_ok)

variable (H : Bytes → Bytes) {σ : Type} (V : Bytes → Bytes → σ → Bool)

/-- The signature loop accepts exactly when P's signature condition holds (any threshold > 0, any list). -/
theorem validateSignatures_iff (digest : Bytes) (thr : Nat) (ps : List (PSigner σ)) (hthr : 0 < thr) :
    validateSignaturesLoop V digest thr ps 0 = .ok true ↔ SigsOk V digest thr ps :=
  Gateway.validateSignatures_ok_iff hthr

/-- the loop never answers `ok true` unless the threshold is met: it is `ok true`, `ok false`, or a trap -/
theorem validateSignatures_sound (digest : Bytes) (thr : Nat) (ps : List (PSigner σ)) (hthr : 0 < thr)
    (h : validateSignaturesLoop V digest thr ps 0 = .ok true) :
    ∃ k, k ≤ ps.length ∧ AllSigsValid V digest (ps.take k) ∧ thr ≤ signedWeight (ps.take k) := by
  obtain ⟨k, hk, hv, h1, _⟩ := (validateSignatures_iff V digest thr ps hthr).mp h
  exact ⟨k, hk, hv, h1⟩

/-- **operational ⇔ declarative**: a proof check succeeds exactly when `ProofValid` holds. -/
theorem validateProof_iff (st : State) (dh : Bytes) (proof : Proof σ) (hthr : 0 < proof.threshold) :
    (∃ b, validateProof H V st dh proof = .ok b) ↔ ProofValid H V st dh proof :=
  Proofs.C03H.validateProof_iff H V st dh proof hthr

/-- the boolean returned says whether the proof's set is the latest one -/
theorem validateProof_latest (st : State) (dh : Bytes) (proof : Proof σ) (b : Bool)
    (h : validateProof H V st dh proof = .ok b) :
    (b = true ↔ st.epochByHash (signersHash H proof.weightedSigners) = some st.epoch) :=
  Gateway.validateProof_latest h

/-- approval batches: accepted exactly when the proof is valid for the batch's data hash and the batch is non-empty -/
theorem approve_ok_iff (st : State) (ms : List Message) (proof : Proof σ) (hthr : 0 < proof.threshold) :
    (∃ r, approveMessages H V st ms proof = .ok r) ↔
      (ProofValid H V st (approveDataHash H ms) proof ∧ ms ≠ []) := by
  rw [← validateProof_iff H V st _ proof hthr]
  exact ⟨fun ⟨_, h⟩ => (approveMessages_ok_iff.mp h).imp_right And.left,
    fun ⟨hv, hne⟩ => ⟨_, approveMessages_ok_iff.mpr ⟨hv, hne, rfl⟩⟩⟩

/-- every rejected submission changes nothing (and emits nothing: the observation carries no events) -/
theorem approve_rejected_unchanged (w : World) (ms : List Message) (proof : Proof σ) (e : Err)
    (h : (step H V w (.approve ms proof)).2 = .err e) :
    (step H V w (.approve ms proof)).1 = w :=
  step_err H V w _ e h

/-- Converse clause: an honestly built proof — every attached signature genuine, the signed entries (ANY subset
    of the signers, in any positions) weigh at least the threshold, declared weights do not overflow — from an
    installed, retained set is accepted. -/
theorem honest_proof_accepted (st : State) (dh : Bytes) (proof : Proof σ) (e : Nat)
    (hinst : st.epochByHash (signersHash H proof.weightedSigners) = some e)
    (he : e ≤ st.epoch) (hret : st.epoch - e ≤ st.retention)
    (hvalid : AllSigsValid V (messageHashToSign H st.domain (signersHash H proof.weightedSigners) dh) proof.signers)
    (hpos : 0 < proof.threshold)
    (hw : proof.threshold ≤ signedWeight proof.signers)
    (hno : signedWeight proof.signers < two128) :
    ∃ b, validateProof H V st dh proof = .ok b := by
  rw [validateProof_iff H V st dh proof hpos]
  refine ⟨e, hinst, he, hret, proof.signers.length, Nat.le_refl _, ?_⟩
  rw [List.take_length]
  exact ⟨hvalid, hw, hno⟩

theorem toSc_injective_signers (a b : WSigners) (h : a.toSc = b.toSc) : a = b :=
  WSigners.toSc_inj a b h

theorem toSc_injective_message (a b : Message) (h : a.toSc = b.toSc) : a = b :=
  Message.toSc_inj a b h

theorem signersHash_binds (a b : WSigners) (ha : a.Typed) (hb : b.Typed)
    (h : signersHash H a = signersHash H b) : a = b ∨ Collision H :=
  Gateway.signersHash_binds H ha hb h

theorem approveDataHash_binds (a b : List Message) (ha : ∀ m ∈ a, m.Typed) (hb : ∀ m ∈ b, m.Typed)
    (hla : a.length < 256 ^ 4) (hlb : b.length < 256 ^ 4)
    (h : approveDataHash H a = approveDataHash H b) : a = b ∨ Collision H :=
  (hash_enc_binds H (approveData_WF ha hla) (approveData_WF hb hlb) h).imp_left (approveData_inj a b)

/-- an approval data hash can never serve as a rotation data hash (command kinds are bound) -/
theorem command_kinds_distinct (ms : List Message) (ws : WSigners)
    (hms : ∀ m ∈ ms, m.Typed) (hl : ms.length < 256 ^ 4) (hws : ws.Typed)
    (h : approveDataHash H ms = rotateDataHash H ws) : Collision H :=
  (hash_enc_binds H (approveData_WF hms hl) (rotateData_WF hws) h).resolve_left (approveData_ne_rotateData ms ws)

theorem digest_binds (d d' sh sh' dh dh' : Bytes)
    (hd : d.length = 32) (hd' : d'.length = 32) (hs : sh.length = 32) (hs' : sh'.length = 32)
    (h : messageHashToSign H d sh dh = messageHashToSign H d' sh' dh') :
    (d = d' ∧ sh = sh' ∧ dh = dh') ∨ Collision H := by
  refine (eq_or_collision H h).imp_left fun hx => ?_
  have h1 := List.append_inj hx (by simp [hd, hd', hs, hs'])
  have h2 := List.append_inj h1.1 (hd.trans hd'.symm)
  exact ⟨h2.1, h2.2, h1.2⟩

/-- In a state satisfying the auth invariant, an accepted proof declares exactly a set that was installed
    (signers, weights, threshold, nonce all as installed) — or a hash collision is exhibited. -/
theorem accepted_set_is_installed (st : State) (hinv : GInv H st) (dh : Bytes) (proof : Proof σ) (b : Bool)
    (htyped : proof.weightedSigners.Typed)
    (hinst : ∀ e ws, st.setAt e = some ws → ws.Typed)
    (h : validateProof H V st dh proof = .ok b) :
    (∃ e, st.setAt e = some proof.weightedSigners ∧ e ≤ st.epoch ∧ st.epoch - e ≤ st.retention) ∨ Collision H :=
  (accepted_set H V ⟨hinv, hinst⟩ htyped h).imp_left fun ⟨e, hs, _, h1, h2⟩ => ⟨e, hs, h1, h2⟩

/-- In every reachable state an accepted proof declares exactly an installed, still-retained set — or a collision is exhibited. -/
theorem accepted_set_is_installed_reachable (w : World) (hreach : Reachable H V w) (dh : Bytes) (proof : Proof σ) (b : Bool)
    (htyped : proof.weightedSigners.Typed)
    (hinst : ∀ e ws, w.st.setAt e = some ws → ws.Typed)
    (h : validateProof H V w.st dh proof = .ok b) :
    (∃ e, w.st.setAt e = some proof.weightedSigners ∧ e ≤ w.st.epoch ∧ w.st.epoch - e ≤ w.st.retention) ∨ Collision H :=
  accepted_set_is_installed H V w.st (Cgp.Props.C03.GInv_reachable H V w hreach) dh proof b htyped hinst h

/-- … hence its declared threshold is positive and within the overflow-free total weight of the declared signers
    (installed sets are well-formed), which discharges the side condition of `validateProof_iff` for reachable states -/
theorem accepted_threshold_pos_reachable (w : World) (hreach : Reachable H V w) (dh : Bytes) (proof : Proof σ) (b : Bool)
    (htyped : proof.weightedSigners.Typed)
    (hinst : ∀ e ws, w.st.setAt e = some ws → ws.Typed)
    (h : validateProof H V w.st dh proof = .ok b) :
    (0 < proof.threshold ∧ WellFormed proof.weightedSigners) ∨ Collision H :=
  (accepted_set H V ⟨Cgp.Props.C03.GInv_reachable H V w hreach, hinst⟩ htyped h).imp_left
    fun ⟨_, _, hwf, _⟩ => ⟨hwf.threshold_pos, hwf⟩

/-- **C01 for reachable states, both directions at once**: a proof check succeeds iff `ProofValid` — or a hash collision
    is exhibited (the only way a proof with threshold 0 could ever match an installed set) -/
theorem validateProof_iff_reachable (w : World) (hreach : Reachable H V w) (dh : Bytes) (proof : Proof σ)
    (htyped : proof.weightedSigners.Typed)
    (hinst : ∀ e ws, w.st.setAt e = some ws → ws.Typed) :
    ((∃ b, validateProof H V w.st dh proof = .ok b) → ProofValid H V w.st dh proof ∨ Collision H) ∧
    (ProofValid H V w.st dh proof → 0 < proof.threshold → ∃ b, validateProof H V w.st dh proof = .ok b) :=
  ⟨fun ⟨_, hb⟩ => proofValid_of_ok H V ⟨Cgp.Props.C03.GInv_reachable H V w hreach, hinst⟩ htyped hb,
   fun hv hpos => (validateProof_iff H V w.st dh proof hpos).mpr hv⟩

/-- the one-step clause of `Run.origin` for `approved_was_signed` (C04 and C16 lift it to their systems) -/
theorem step_approved (w : World) (op : Op σ) (hty : op.Typed) (hinv : AInv H w.st) (c i h : Bytes)
    (h1 : (step H V w op).1.st.approvals c i = .approved h) :
    w.st.approvals c i = .approved h ∨
    (∃ ms proof evs m, op = .approve ms proof ∧ (step H V w op).2 = .ok evs ∧ m ∈ ms ∧
        m.sourceChain = c ∧ m.messageId = i ∧ messageHash H m = h ∧
        ProofValid H V w.st (approveDataHash H ms) proof) ∨ Collision H := by
  have he := step_effect H V w op
  generalize step H V w op = r at he h1 ⊢
  cases he with
  | @approve ms proof b hv =>
    rcases approveLoop_approvals H ms w.st c i with h2 | ⟨_, m, hm, hc, hi, h2⟩
    · exact Or.inl (h2.symm.trans h1)
    · exact Or.inr ((proofValid_of_ok H V hinv hty hv).imp_left fun hp =>
        ⟨ms, proof, _, m, rfl, rfl, hm, hc, hi, Approval.approved.inj (h2.symm.trans h1), hp⟩)
  | consume => exact Or.inl (consumed_approved h1)
  | _ => exact Or.inl h1

/-- **every approved message in every reachable state was signed**: start from any successful construction with typed
    initial sets and run ANY history of typed submissions; if afterwards the gateway holds an approval `h` for (chain, id),
    then somewhere in that history a successful `approve_messages` call carried a message with that chain and id whose
    message hash is `h`, and its proof was valid in the state it was submitted to (signatures by members of a registered,
    still-retained set reaching that set's threshold, over the digest binding domain, set, command kind and that very
    batch) — or a hash collision is exhibited. -/
theorem approved_was_signed (owner operator : Addr) (domain : Bytes) (minDelay retention : Nat) (sets : List WSigners)
    (now : Nat) (w0 : World) (hsets : ∀ ws ∈ sets, ws.Typed)
    (hc : constructed H owner operator domain minDelay retention sets now = some w0)
    (ops : List (Op σ)) (hty : ∀ op ∈ ops, op.Typed) (c i h : Bytes)
    (hfin : (run H V w0 ops).1.st.approvals c i = .approved h) :
    (∃ wa ms proof evs m, (wa, Op.approve ms proof, Obs.ok evs) ∈ trace H V w0 ops ∧ m ∈ ms ∧
        m.sourceChain = c ∧ m.messageId = i ∧ messageHash H m = h ∧
        ProofValid H V wa.st (approveDataHash H ms) proof)
    ∨ Collision H := by
  rcases trace_origin H V (I := fun w => AInv H w.st) (T := Op.Typed) (C := Collision H)
      (F := fun w => w.st.approvals c i = .approved h)
      (G := fun x => ∃ ms proof evs m, x.2.1 = .approve ms proof ∧ x.2.2 = .ok evs ∧ m ∈ ms ∧
        m.sourceChain = c ∧ m.messageId = i ∧ messageHash H m = h ∧ ProofValid H V x.1.st (approveDataHash H ms) proof)
      (AInv_step H V) (fun w op hop hinv => step_approved H V w op hop hinv c i h) ops w0
      ((AInv_auth H).constructed hsets hc) hty hfin
    with h1 | ⟨⟨wa, op, o⟩, hx, ms, proof, evs, m, rfl, rfl, hr⟩ | h1
  · rw [Gateway.constructed_no_approvals H hc c i] at h1; cases h1
  · exact Or.inl ⟨wa, ms, proof, evs, m, hx, hr⟩
  · exact Or.inr h1

/-- equal message hashes mean equal messages (source chain, id, source address, destination contract, payload hash) —
    or a hash collision is exhibited; so the signed message of `approved_was_signed` is determined field by field -/
theorem messageHash_binds (a b : Message) (ha : a.Typed) (hb : b.Typed)
    (h : messageHash H a = messageHash H b) : a = b ∨ Collision H :=
  Gateway.messageHash_binds H ha hb h

/-- a freshly constructed gateway holds no approvals at all -/
theorem constructed_no_approvals (owner operator : Addr) (domain : Bytes) (minDelay retention : Nat) (sets : List WSigners)
    (now : Nat) (w0 : World) (hc : constructed H owner operator domain minDelay retention sets now = some w0) (c i : Bytes) :
    w0.st.approvals c i = .notApproved :=
  Gateway.constructed_no_approvals H hc c i

/-- non-vacuity: a concrete one-signer proof satisfies `SigsOk` -/
example : SigsOk (fun _ _ (_ : Unit) => true) [] 3 [⟨⟨[1], 5⟩, some ()⟩] := by
  exact ⟨1, Nat.le_refl _, fun _ _ _ _ => rfl, by decide, by decide⟩

section NonVacuity
open Cgp.Toy

def m0 : Message := ⟨[97], [49], [98], ⟨true, List.replicate 32 9⟩, List.replicate 32 3⟩

/-- the hypotheses of `approved_was_signed` are satisfiable: a constructed gateway, typed sets and submissions, and an
    approval on record after the history -/
theorem approved_was_signed_nonvacuous :
    (∀ ws ∈ [ws0], ws.Typed) ∧ (∀ op ∈ [(Op.approve [m0] pf0 : Op Unit)], op.Typed) ∧
    ∃ w0, constructed H0 owner0 owner0 [1] 0 0 [ws0] 5 = some w0 ∧
      (run H0 V0 w0 [.approve [m0] pf0]).1.st.approvals [97] [49] = .approved (messageHash H0 m0) := by
  refine ⟨by decide, by decide, exists_of_isSome (by decide +kernel) ?_⟩
  decide +kernel

end NonVacuity

end Cgp.Props.C01
