/-
  Property C05 — interchain transfers conserve value and announce exactly what was taken.
-/
import Cgp.Toy
import Cgp.Proofs.C05
import Cgp.Proofs.Token
namespace Cgp.Props.C05
open Cgp.Xdr Cgp.Its

variable (H : Bytes → Bytes) (S : Bytes → Bytes) (k : Consts)

theorem tokTransfer_exact (st st' : State) (token src dst : Addr) (amount : Int) (au : Bool)
    (h : tokTransfer st token src dst amount au = .ok st') :
    au = true ∧ 0 ≤ amount ∧ amount ≤ balOf st token src ∧
    (src ≠ dst → balOf st' token src = balOf st token src - amount ∧ balOf st' token dst = balOf st token dst + amount) ∧
    (src = dst → balOf st' token src = balOf st token src) ∧
    (∀ x, x ≠ src → x ≠ dst → balOf st' token x = balOf st token x) ∧
    (∀ tk, tk ≠ token → st'.tokens tk = st.tokens tk) ∧
    st'.registry = st.registry ∧ st'.gw = st.gw ∧ st'.trusted = st.trusted ∧ st'.self = st.self ∧
    st'.gasService = st.gasService ∧ st'.owner = st.owner := by
  obtain ⟨t, ht, hau, ham, hle, -, rfl⟩ := tokTransfer_ok_iff.mp h
  obtain ⟨m1, m2, m3⟩ := bump_bump t.bal src dst amount
  simp only [balOf_setTok, if_true, balOf_of_tokens ht]
  exact ⟨hau, ham, hle, m1, m2, m3, fun _ => setTok_other, rfl, rfl, rfl, rfl, rfl, rfl⟩

theorem tokBurn_exact (st st' : State) (token src : Addr) (amount : Int) (au : Bool)
    (h : tokBurn st token src amount au = .ok st') :
    au = true ∧ 0 ≤ amount ∧ amount ≤ balOf st token src ∧
    balOf st' token src = balOf st token src - amount ∧
    (∀ x, x ≠ src → balOf st' token x = balOf st token x) ∧
    (∀ tk, tk ≠ token → st'.tokens tk = st.tokens tk) ∧
    st'.registry = st.registry ∧ st'.gw = st.gw ∧ st'.trusted = st.trusted ∧ st'.self = st.self := by
  obtain ⟨t, ht, -, hau, ham, hle, rfl⟩ := tokBurn_ok_iff.mp h
  simp only [balOf_setTok, if_true, balOf_of_tokens ht, bump_apply]
  exact ⟨hau, ham, hle, by omega, fun x h1 => by rw [if_neg h1, Int.add_zero], fun _ => setTok_other,
    rfl, rfl, rfl, rfl⟩

theorem tokMint_exact (st st' : State) (token dst : Addr) (amount : Int)
    (h : tokMintByService st token dst amount = .ok st') :
    0 ≤ amount ∧ (∃ t, st.tokens token = some t ∧ t.kind = .interchain ∧ t.owner = st.self ∧ t.minter st.self = true) ∧
    balOf st' token dst = balOf st token dst + amount ∧
    (∀ x, x ≠ dst → balOf st' token x = balOf st token x) ∧
    (∀ tk, tk ≠ token → st'.tokens tk = st.tokens tk) ∧
    st'.registry = st.registry ∧ st'.gw = st.gw ∧ st'.trusted = st.trusted ∧ st'.self = st.self := by
  obtain ⟨t, ht, hk, ho, hm, ham, -, rfl⟩ := tokMintByService_ok_iff.mp h
  simp only [balOf_setTok, if_true, balOf_of_tokens ht, bump_apply]
  -- the equation at `dst` has become `True`: after `bump_apply` its two sides are the same term
  exact ⟨ham, ⟨t, ht, hk, ho, ho ▸ hm⟩, trivial, fun x h1 => by rw [if_neg h1, Int.add_zero], fun _ => setTok_other,
    rfl, rfl, rfl, rfl⟩

/-- A successful outbound transfer: positive amount, the sender's authorisation, a trusted destination; the stated amount is
    taken (burned for service-deployed tokens, moved into custody for canonical ones), exactly the stated gas is paid by the
    sender to the gas service, and the hub is told exactly (token, amount, xdr(sender), destination, data) under
    SendToHub(destination), with `gas_paid` over the very same payload. -/
theorem outbound_exact (st st' : State) (auths : List Addr) (caller : Addr) (tid dest destAddr : Bytes) (amount : Int)
    (data : Option Bytes) (gasToken : Addr) (gasAmount : Int) (evs : List Event)
    (h : interchainTransfer H k st auths caller tid dest destAddr amount data gasToken gasAmount = .ok (st', evs)) :
    0 < amount ∧ caller ∈ auths ∧ st.trusted dest = true ∧ 0 < gasAmount ∧
    ∃ addr mgr st1 payload,
      st.registry tid = some (addr, mgr) ∧
      (match mgr with
       | .native => tokBurn st addr caller amount true = .ok st1
       | .lockUnlock => tokTransfer st addr caller st.self amount true = .ok st1) ∧
      Abi.encodeHub (.sendToHub dest (.transfer ⟨tid, enc (.addr caller), destAddr, amount, data⟩)) = .ok payload ∧
      tokTransfer st1 gasToken caller st1.gasService gasAmount true = .ok st' ∧
      evs = [evTransferSent st tid caller dest destAddr amount data,
             evGasPaid H k st1 payload caller gasToken gasAmount, evContractCalled H k st1 payload] := by
  obtain ⟨hpos, hca, addr, mgr, st1, evs', hreg, ht, hp, rfl⟩ := interchainTransfer_ok h
  obtain ⟨htr, -, hga, payload, henc, hg, rfl⟩ := payGasAndCall_ok hp
  rw [(take_ledger ht).1] at htr
  exact ⟨hpos, hca, htr, hga, addr, mgr, st1, payload, hreg, by cases mgr <;> exact ht, henc, hg, rfl⟩

/-- zero / negative amounts, untrusted destinations and unknown tokens are refused -/
theorem outbound_refusals (st : State) (auths : List Addr) (caller : Addr) (tid dest destAddr : Bytes) (amount : Int)
    (data : Option Bytes) (gasToken : Addr) (gasAmount : Int) :
    (amount ≤ 0 → ∃ e, interchainTransfer H k st auths caller tid dest destAddr amount data gasToken gasAmount = .error e) ∧
    (st.trusted dest = false → ∃ e, interchainTransfer H k st auths caller tid dest destAddr amount data gasToken gasAmount = .error e) ∧
    (st.registry tid = none → ∃ e, interchainTransfer H k st auths caller tid dest destAddr amount data gasToken gasAmount = .error e) ∧
    (caller ∉ auths → ∃ e, interchainTransfer H k st auths caller tid dest destAddr amount data gasToken gasAmount = .error e) ∧
    (gasAmount ≤ 0 → ∃ e, interchainTransfer H k st auths caller tid dest destAddr amount data gasToken gasAmount = .error e) := by
  have ok : ∀ r, interchainTransfer H k st auths caller tid dest destAddr amount data gasToken gasAmount = .ok r →
      0 < amount ∧ caller ∈ auths ∧ st.trusted dest = true ∧ 0 < gasAmount ∧ st.registry tid ≠ none := fun r hr => by
    obtain ⟨h1, h2, h3, h4, addr, mgr, _, _, hreg, -⟩ := outbound_exact H k st r.1 _ _ _ _ _ _ _ _ _ r.2 hr
    exact ⟨h1, h2, h3, h4, by rw [hreg]; nofun⟩
  exact ⟨fun hh => error_of_not_ok fun r hr => Int.not_le.mpr (ok r hr).1 hh,
    fun hh => error_of_not_ok fun r hr => (nomatch hh.symm.trans (ok r hr).2.2.1),
    fun hh => error_of_not_ok fun r hr => (ok r hr).2.2.2.2 hh,
    fun hh => error_of_not_ok fun r hr => hh (ok r hr).2.1,
    fun hh => error_of_not_ok fun r hr => Int.not_le.mpr (ok r hr).2.2.2.1 hh⟩

/-- A successful inbound transfer credits exactly the announced amount to the decoded recipient: minted for service-deployed
    tokens, released from the service's custody for canonical ones; it announces exactly that, and when the message carries data
    the recipient application is handed exactly (origin chain, message id, source address, data, token id, token address, amount). -/
theorem inbound_exact (st st' : State) (c i sa payload origin : Bytes) (t : Abi.Transfer) (evs : List Event)
    (h : execute H S k st c i sa payload = .ok (st', evs))
    (hd : Abi.decodeHub payload = .ok (.receiveFromHub origin (.transfer t))) :
    ∃ addr mgr recipient st0,
      st0 = { st with gw := st'.gw } ∧
      st.registry t.tokenId = some (addr, mgr) ∧ addrFromXdr t.dest = some recipient ∧
      (match mgr with
       | .native => tokMintByService st0 addr recipient t.amount = .ok st'
       | .lockUnlock => tokTransfer st0 addr st0.self recipient t.amount true = .ok st') ∧
      (∃ gwEvs, evs = gwEvs ++ (evTransferReceived st origin t.tokenId t.source recipient t.amount t.data ::
          (match t.data with
           | none => []
           | some d => [evAppExecuted recipient origin i t.source d t.tokenId addr t.amount]))) :=
  Proofs.C05.inbound_exact H S k st st' c i sa payload origin t evs h hd

def TokNonNeg (st : State) : Prop := ∀ a t h', st.tokens a = some t → 0 ≤ t.bal h'

theorem nonneg_step (st : State) (op : Op) (h : TokNonNeg st) : TokNonNeg (step H S k st op).1 :=
  (step_flow H S k st op).nn h

/-- the service's custody (like every other balance) is never negative, in any history -/
theorem nonneg_run (st : State) (ops : List Op) (h : TokNonNeg st) : TokNonNeg (run H S k st ops).1 :=
  Run.invariant (fun st op => (step H S k st op).1) (fun st ops => (run H S k st ops).1) (fun _ => rfl) (fun _ _ _ => rfl)
    TokNonNeg (nonneg_step H S k) ops st h

/-- failed calls move nothing (and change nothing else) -/
theorem failed_moves_nothing (st : State) (op : Op) (e : Err) (h : (step H S k st op).2 = .err e) :
    (step H S k st op).1 = st :=
  step_err H S k st op e h

/-- operations in which the service itself is not the paying / receiving party (no donations to the service, the service
    does not call its own entry points) -/
def Clean (self : Addr) : Op → Prop
  | .deploy _ caller _ _ _ _ _ _ => caller ≠ self
  | .deployRemote _ caller _ _ _ _ => caller ≠ self
  | .deployRemoteCanonical _ _ _ spender _ _ => spender ≠ self
  | .transfer _ caller _ _ _ _ _ _ _ => caller ≠ self
  | .minterMint _ _ dst _ _ => dst ≠ self
  | _ => True

/-- the identity of the service, its gas service and the registry entries already made never change -/
theorem frame_step (st : State) (op : Op) :
    (step H S k st op).1.self = st.self ∧ (step H S k st op).1.gasService = st.gasService ∧
    (step H S k st op).1.gatewayAddr = st.gatewayAddr :=
  have f := step_config H S k st op
  ⟨f.1, f.2.2.1, f.2.2.2.1⟩

def SameIds (st w : State) : Prop := w.self = st.self ∧ w.gasService = st.gasService

theorem sameIds_step (st w : State) (op : Op) (h : SameIds st w) : SameIds st (step H S k w op).1 :=
  ⟨(frame_step H S k w op).1.trans h.1, (frame_step H S k w op).2.1.trans h.2⟩

/-- signed movement of token `a` into (+) or out of (−) the service's own balance caused by a SUCCESSFUL operation,
    read off the state BEFORE the operation: outbound transfers of ids registered for `a` with the lock/unlock manager lock
    their amount; inbound transfers for such ids release theirs (unless the recipient is the service itself); a service
    token minted to the service itself is the only other way the service's balance moves -/
def custodyFlow (st : State) (a : Addr) : Op → Int
  | .transfer _ _ tid _ _ amount _ _ _ => if st.registry tid = some (a, .lockUnlock) then amount else 0
  | .execute _ _ _ payload =>
    match Abi.decodeHub payload with
    | .ok (.receiveFromHub _ (.transfer t)) =>
      match st.registry t.tokenId, addrFromXdr t.dest with
      | some (addr, .lockUnlock), some r => if addr = a ∧ r ≠ st.self then - t.amount else 0
      | some (addr, .native), some r => if addr = a ∧ r = st.self then t.amount else 0
      | _, _ => 0
    | _ => 0
  | _ => 0

/-- total locked minus total released (successful operations only), accumulated along a history -/
def netCustody (st : State) (a : Addr) : List Op → Int
  | [] => 0
  | op :: rest =>
    (match (step H S k st op).2 with | .err _ => 0 | _ => custodyFlow st a op) + netCustody (step H S k st op).1 a rest

theorem flow_self (st : State) (op : Op) (a : Addr) (hgs : st.gasService ≠ st.self) (hclean : Clean st.self op) :
    flow H S k st op a st.self = custodyFlow st a op := by
  cases op with
  | deploy | minterMint => exact pt_ne_holder hclean
  | deployRemote | deployRemoteCanonical => exact move_ne hclean hgs
  | transfer au ca ti de da am dt gt ga =>
    simp only [flow, custodyFlow, move_ne (x := st.self) hclean hgs, Int.add_zero]
    cases st.registry ti with
    | none => rw [if_neg nofun]
    | some v => simp only [takeFlow_self hclean, Option.some.injEq]
  | execute c i sa p =>
    simp only [flow, custodyFlow]
    -- both sides look at the payload, the registry and the recipient, in this order
    cases Abi.decodeHub p with
    | error _ => rfl
    | ok m =>
      cases m with
      | sendToHub _ _ => rfl
      | receiveFromHub _ inner =>
        cases inner with
        | deploy _ => rfl
        | transfer t =>
          dsimp only
          cases st.registry t.tokenId with
          | none => rfl
          | some v =>
            obtain ⟨addr, mgr⟩ := v
            cases addrFromXdr t.dest with
            | none => cases mgr <;> rfl
            | some r => cases mgr <;> exact giveFlow_self ..
  | userTransfer t s d am au =>
    simp only [flow, custodyFlow]
    split
    · rfl
    · rename_i hc
      exact move_ne (fun e => hc (Or.inl e)) (fun e => hc (Or.inr e))
  | _ => rfl

theorem custody_step_eq (st : State) (op : Op) (a : Addr) (hgs : st.gasService ≠ st.self) (hclean : Clean st.self op) :
    balOf (step H S k st op).1 a st.self =
      balOf st a st.self + (match (step H S k st op).2 with | .err _ => 0 | _ => custodyFlow st a op) := by
  rw [(step_flow H S k st op).bal, flow_self H S k st op a hgs hclean]
  rfl

/-- **custody = locked − released**: the service's balance of any token changes only by a successful outbound transfer of an
    id registered for that token with the lock/unlock manager (+amount), or a successful inbound transfer for such an id
    (−amount, when the recipient is somebody else) -/
theorem custody_step (st : State) (op : Op) (a : Addr) (hgs : st.gasService ≠ st.self) (hclean : Clean st.self op) :
    balOf (step H S k st op).1 a st.self = balOf st a st.self ∨
    (∃ auths caller tid dest destAddr amount data gt ga,
        op = .transfer auths caller tid dest destAddr amount data gt ga ∧ st.registry tid = some (a, .lockUnlock) ∧
        0 < amount ∧ balOf (step H S k st op).1 a st.self = balOf st a st.self + amount) ∨
    (∃ c i sa payload origin t,
        op = .execute c i sa payload ∧ Abi.decodeHub payload = .ok (.receiveFromHub origin (.transfer t)) ∧
        (∃ mgr, st.registry t.tokenId = some (a, mgr)) ∧
        (balOf (step H S k st op).1 a st.self = balOf st a st.self - t.amount ∨
         balOf (step H S k st op).1 a st.self = balOf st a st.self + t.amount)) := by
  have h := custody_step_eq H S k st op a hgs hclean
  have he := step_effect H S k st op
  generalize step H S k st op = r at he h ⊢
  have same {x : Int} (h : x = balOf st a st.self + 0) : x = balOf st a st.self := h.trans (Int.add_zero _)
  cases he with
  | @transfer au ca ti de da am dt gt ga _ _ _ _ _ _ hpos =>
    dsimp only [custodyFlow] at h
    split at h
    · next hreg => exact .inr (.inl ⟨au, ca, ti, de, da, am, dt, gt, ga, rfl, hreg, hpos, h⟩)
    · exact .inl (same h)
  | @recvTransfer c i sa p origin t rcp addr mgr _ _ _ hdec hdest hreg =>
    simp only [custodyFlow, hdec, hreg, hdest] at h
    cases mgr with
    | native =>
      dsimp only at h
      split at h
      · next hc => exact .inr (.inr ⟨c, i, sa, p, origin, t, rfl, hdec, ⟨_, hc.1 ▸ hreg⟩, .inr h⟩)
      · exact .inl (same h)
    | lockUnlock =>
      dsimp only at h
      split at h
      · next hc =>
        exact .inr (.inr ⟨c, i, sa, p, origin, t, rfl, hdec, ⟨_, hc.1 ▸ hreg⟩, .inl (h.trans Int.sub_eq_add_neg.symm)⟩)
      · exact .inl (same h)
  | recvDeploy _ hdec =>
    simp only [custodyFlow, hdec] at h
    exact .inl (same h)
  | _ => exact .inl (same h)

/-- **custody = initial + locked − released, for every token, over every history** (no donations to the service, the service
    does not call its own entry points) -/
theorem custody_run (st : State) (ops : List Op) (a : Addr) (hgs : st.gasService ≠ st.self)
    (hclean : ∀ op ∈ ops, Clean st.self op) :
    balOf (run H S k st ops).1 a st.self = balOf st a st.self + netCustody H S k st a ops :=
  Run.telescope (fun st op => (step H S k st op).1) (fun st ops => (run H S k st ops).1) (fun _ => rfl) (fun _ _ _ => rfl)
    (SameIds st) (sameIds_step H S k st) (Clean st.self)
    (fun w => balOf w a st.self) _ (fun w => netCustody H S k w a) (fun _ => rfl) (fun _ _ _ => rfl)
    (fun w o hw hc => hw.1 ▸ custody_step_eq H S k w o a (hw.1 ▸ hw.2 ▸ hgs) (hw.1 ▸ hc)) ops st ⟨rfl, rfl⟩ hclean

/-- the holders whose balance (of any token) an operation can change: its parties, the service (custody) and the gas
    service (gas payments); `self` / `gs` are the service's and the gas service's addresses (constant, `frame_step`) -/
def touched (self gs : Addr) : Op → List Addr
  | .deploy _ caller _ _ _ _ _ _ => [caller]
  | .deployRemote _ caller _ _ _ _ => [caller, gs]
  | .deployRemoteCanonical _ _ _ spender _ _ => [spender, gs]
  | .transfer _ caller _ _ _ _ _ _ _ => [caller, self, gs]
  | .execute _ _ _ payload =>
    match Abi.decodeHub payload with
    | .ok (.receiveFromHub _ (.transfer t)) =>
      match addrFromXdr t.dest with
      | some r => [r, self]
      | none => []
    | _ => []
  | .userTransfer _ s d _ _ => [s, d]
  | .minterMint _ _ d _ _ => [d]
  | _ => []

def sumBal (st : State) (a : Addr) (hs : List Addr) : Int := (hs.map (balOf st a)).sum

/-- signed change of the SUPPLY of token `a` caused by a SUCCESSFUL operation, read off the state BEFORE it: the initial
    supply of a local deployment that creates `a`; minus the amount of an outbound transfer of an id registered for `a`
    with the mint/burn manager; plus the amount of an inbound transfer for such an id; plus a designated minter's own
    mint. Nothing else (lock/unlock transfers, gas payments, user transfers, remote deployments, registrations, owner
    operations, gateway activity) changes any supply. -/
def supplyFlow (st : State) (a : Addr) : Op → Int
  | .deploy _ caller salt _ _ _ supply _ =>
    if deployedAddress S k st.self (interchainTokenId H k st.chainName caller salt) = a ∧ supply > 0 then supply else 0
  | .transfer _ _ tid _ _ amount _ _ _ => if st.registry tid = some (a, .native) then - amount else 0
  | .execute _ _ _ payload =>
    match Abi.decodeHub payload with
    | .ok (.receiveFromHub _ (.transfer t)) => if st.registry t.tokenId = some (a, .native) then t.amount else 0
    | _ => 0
  | .minterMint t _ _ amount _ => if t = a then amount else 0
  | _ => 0

/-- initial supplies plus mints minus burns (successful operations only), accumulated along a history -/
def netSupply (st : State) (a : Addr) : List Op → Int
  | [] => 0
  | op :: rest =>
    (match (step H S k st op).2 with | .err _ => 0 | _ => supplyFlow H S k st a op) + netSupply (step H S k st op).1 a rest

theorem flow_sum (st : State) (op : Op) (a : Addr) (hs : List Addr) (hnd : hs.Nodup)
    (hcov : ∀ x ∈ touched st.self st.gasService op, x ∈ hs) (hok : ∀ e, (step H S k st op).2 ≠ .err e) :
    (hs.map (flow H S k st op a)).sum = supplyFlow H S k st a op := by
  have he := step_effect H S k st op
  generalize step H S k st op = r at he hok
  cases he with
  | refused op e => exact absurd rfl (hok e)
  | @deploy au ca sa n sy d su m =>
    simp only [flow, supplyFlow, sum_pt _ _ _ _ hnd, hcov ca (.head _), and_true, eq_comm (a := a)]
    grind
  | deployRemote | deployRemoteCanonical =>
    exact move_sum _ _ _ _ _ hnd (hcov _ (.head _)) (hcov _ (.tail _ (.head _)))
  | @transfer au ca ti de da am dt gt ga addr mgr _ _ _ _ _ hreg =>
    have hca : ca ∈ hs := hcov ca (.head _)
    simp only [flow, supplyFlow, hreg]
    rw [sum_map_add, move_sum _ _ _ _ _ hnd hca (hcov _ (.tail _ (.tail _ (.head _)))), Int.add_zero,
      takeFlow_sum _ _ _ _ _ _ hnd hca (hcov _ (.tail _ (.head _)))]
    simp only [Option.some.injEq]
  | @recvTransfer c i sa p origin t rcp addr mgr _ _ _ hdec hdest hreg =>
    simp only [touched, hdec, hdest] at hcov
    simp only [flow, supplyFlow, hdec, hreg, hdest,
      giveFlow_sum _ _ _ _ _ _ hnd (hcov rcp (.head _)) (hcov st.self (.tail _ (.head _))), Option.some.injEq]
  | recvDeploy _ hdec => simp only [flow, supplyFlow, hdec]; exact sum_map_zero hs
  | @userTransfer t s d am au _ hs' hd =>
    simp only [flow, supplyFlow, if_neg (not_or.mpr ⟨hs', hd⟩)]
    exact move_sum _ _ _ _ _ hnd (hcov s (.head _)) (hcov d (.tail _ (.head _)))
  | @minterMint t m d am au =>
    simp only [flow, supplyFlow, sum_pt _ _ _ _ hnd, hcov d (.head _), and_true, eq_comm (a := a)]
  | _ => exact sum_map_zero hs

theorem supply_step (st : State) (op : Op) (a : Addr) (hs : List Addr) (hnd : hs.Nodup)
    (hcov : ∀ x ∈ touched st.self st.gasService op, x ∈ hs) :
    sumBal (step H S k st op).1 a hs =
      sumBal st a hs + (match (step H S k st op).2 with | .err _ => 0 | _ => supplyFlow H S k st a op) := by
  unfold sumBal
  rw [step_sum]
  cases ho : (step H S k st op).2 with
  | err e => rfl
  | _ => exact congrArg _ (flow_sum H S k st op a hs hnd hcov (by rw [ho]; nofun))

/-- **supply = initial supply + mints − burns, for every token, over every history**: over any set of holders that
    contains every party of the history (and the service and the gas service when they take part), the total of token
    `a` changes exactly by the initial supply of the deployment that created it, the service's mints for inbound
    transfers, its burns for outbound transfers, and the designated minters' own mints -/
theorem supply_run (st : State) (ops : List Op) (a : Addr) (hs : List Addr) (hnd : hs.Nodup)
    (hcov : ∀ op ∈ ops, ∀ x ∈ touched st.self st.gasService op, x ∈ hs) :
    sumBal (run H S k st ops).1 a hs = sumBal st a hs + netSupply H S k st a ops :=
  Run.telescope (fun st op => (step H S k st op).1) (fun st ops => (run H S k st ops).1) (fun _ => rfl) (fun _ _ _ => rfl)
    (SameIds st) (sameIds_step H S k st) (fun op => ∀ x ∈ touched st.self st.gasService op, x ∈ hs)
    (fun w => sumBal w a hs) _ (fun w => netSupply H S k w a) (fun _ => rfl) (fun _ _ _ => rfl)
    (fun w o hw hc => supply_step H S k w o a hs hnd (hw.1 ▸ hw.2 ▸ hc)) ops st ⟨rfl, rfl⟩ hcov

/-! ### refinement: on a service-deployed token the ledger primitives used above ARE the token contract's entry points
    (`Cgp.Token`, the model checked against contracts/interchain-token by property C12) -/

/-- a `Cgp.Token` state seen as an entry of the service's token ledger -/
def asTok (ts : Token.State) (tid name symbol : Bytes) (decimals : Nat) : Tok :=
  { kind := .interchain, name, symbol, decimals, bal := ts.bal, owner := ts.owner, minter := ts.minter, tokenId := tid }

/-- `burn`: the ledger primitive succeeds exactly when the token's `burn` does, with the same resulting balances -/
theorem burn_refines (st : State) (a : Addr) (ts : Token.State) (tid name symbol : Bytes) (decimals : Nat)
    (c : Token.Ctx) (src : Addr) (amount : Int) (h : st.tokens a = some (asTok ts tid name symbol decimals)) :
    (∃ st' ts' evs, tokBurn st a src amount (decide (src ∈ c.auths)) = .ok st' ∧ Token.burn ts c src amount = .ok (ts', evs) ∧
        st'.tokens a = some (asTok ts' tid name symbol decimals)) ∨
    ((∃ e, tokBurn st a src amount (decide (src ∈ c.auths)) = .error e) ∧ (∃ e, Token.burn ts c src amount = .error e)) := by
  by_cases hc : src ∈ c.auths ∧ 0 ≤ amount ∧ amount ≤ ts.bal src
  · obtain ⟨ha, h0, hle⟩ := hc
    exact .inl ⟨_, _, _, tokBurn_ok_iff.mpr ⟨_, h, nofun, decide_eq_true ha, h0, hle, rfl⟩,
      Token.burn_ok_iff.mpr ⟨ha, h0, hle, rfl, rfl⟩, setTok_self ..⟩
  · refine .inr ⟨error_of_not_ok fun r hr => hc ?_, error_of_not_ok fun r hr => hc ?_⟩
    · obtain ⟨_, ht, -, ha, h0, hle, -⟩ := tokBurn_ok_iff.mp hr
      cases h.symm.trans ht
      exact ⟨of_decide_eq_true ha, h0, hle⟩
    · obtain ⟨ha, h0, hle, -⟩ := Token.burn_ok_iff.mp hr
      exact ⟨ha, h0, hle⟩

theorem transfer_refines (st : State) (a : Addr) (ts : Token.State) (tid name symbol : Bytes) (decimals : Nat)
    (c : Token.Ctx) (src dst : Addr) (amount : Int) (h : st.tokens a = some (asTok ts tid name symbol decimals)) :
    (∃ st' ts' evs, tokTransfer st a src dst amount (decide (src ∈ c.auths)) = .ok st' ∧ Token.transfer ts c src dst amount = .ok (ts', evs) ∧
        st'.tokens a = some (asTok ts' tid name symbol decimals)) ∨
    ((∃ e, tokTransfer st a src dst amount (decide (src ∈ c.auths)) = .error e) ∧ (∃ e, Token.transfer ts c src dst amount = .error e)) := by
  by_cases hc : src ∈ c.auths ∧ 0 ≤ amount ∧ amount ≤ ts.bal src ∧ bump ts.bal src (-amount) dst + amount ≤ i128Max
  · obtain ⟨ha, h0, hle, hmax⟩ := hc
    exact .inl ⟨_, _, _, tokTransfer_ok_iff.mpr ⟨_, h, decide_eq_true ha, h0, hle, hmax, rfl⟩,
      Token.transfer_ok_iff.mpr ⟨ha, h0, hle, hmax, rfl, rfl⟩, setTok_self ..⟩
  · refine .inr ⟨error_of_not_ok fun r hr => hc ?_, error_of_not_ok fun r hr => hc ?_⟩
    · obtain ⟨_, ht, ha, h0, hle, hmax, -⟩ := tokTransfer_ok_iff.mp hr
      cases h.symm.trans ht
      exact ⟨of_decide_eq_true ha, h0, hle, hmax⟩
    · obtain ⟨ha, h0, hle, hmax, -⟩ := Token.transfer_ok_iff.mp hr
      exact ⟨ha, h0, hle, hmax⟩

/-- `mint` by the service (the token's owner, calling as itself): succeeds exactly when the token's owner-`mint` does -/
theorem mint_refines (st : State) (a : Addr) (ts : Token.State) (tid name symbol : Bytes) (decimals : Nat)
    (c : Token.Ctx) (dst : Addr) (amount : Int) (h : st.tokens a = some (asTok ts tid name symbol decimals))
    (hown : ts.owner = st.self) (hauth : st.self ∈ c.auths) :
    (∃ st' ts' evs, tokMintByService st a dst amount = .ok st' ∧ Token.mint ts c dst amount = .ok (ts', evs) ∧
        st'.tokens a = some (asTok ts' tid name symbol decimals)) ∨
    ((∃ e, tokMintByService st a dst amount = .error e) ∧ (∃ e, Token.mint ts c dst amount = .error e)) := by
  by_cases hc : ts.minter ts.owner = true ∧ 0 ≤ amount ∧ ts.bal dst + amount ≤ i128Max
  · obtain ⟨hm, h0, hmax⟩ := hc
    exact .inl ⟨_, _, _, tokMintByService_ok_iff.mpr ⟨_, h, rfl, hown, hm, h0, hmax, rfl⟩,
      Token.mintFrom_ok_iff.mpr ⟨hown ▸ hauth, hm, h0, hmax, rfl, rfl⟩, setTok_self ..⟩
  · refine .inr ⟨error_of_not_ok fun r hr => hc ?_, error_of_not_ok fun r hr => hc ?_⟩
    · obtain ⟨_, ht, -, -, hm, h0, hmax, -⟩ := tokMintByService_ok_iff.mp hr
      cases h.symm.trans ht
      exact ⟨hm, h0, hmax⟩
    · obtain ⟨-, hm, h0, hmax, -⟩ := Token.mintFrom_ok_iff.mp hr
      exact ⟨hm, h0, hmax⟩

/-- the owner's administrative step — upgrade of the service to the same code and migration — changes no balance, no custody, no
    registry entry and no trust setting, whether it is accepted or refused (the history theorems above range over it) -/
theorem admin_step_changes_nothing (st : State) (auths : List Addr) :
    (step H S k st (.upgradeMigrate auths)).1 = st ∧
    ((step H S k st (.upgradeMigrate auths)).2 = .ok [] ∨ (step H S k st (.upgradeMigrate auths)).2 = .err .unauthorized) :=
  ⟨step_upgradeMigrate_fst H S k, step_upgradeMigrate_snd H S k⟩


section NonVacuity
open Cgp.Toy

def k0 : Consts := ⟨[104], [1], [2], [3], [4]⟩
def svc : Addr := ⟨true, List.replicate 32 8⟩
def gsA : Addr := ⟨true, List.replicate 32 5⟩
def user : Addr := ⟨false, List.replicate 32 11⟩
def gasTok : Addr := ⟨true, List.replicate 32 21⟩
def canon : Addr := ⟨true, List.replicate 32 22⟩
def sac (b : Int) : Tok := { kind := .sac, name := [71], symbol := [71], decimals := 7, bal := fun a => if a = user then b else 0, owner := owner0, minter := fun _ => false, tokenId := [] }
def gw0 : Gateway.State := Gateway.initState owner0 owner0 [1] 0 0
def st0 : State :=
  { self := svc, owner := owner0, gatewayAddr := ⟨true, List.replicate 32 6⟩, gasService := gsA,
    hubAddress := [120], chainName := [115], trusted := fun c => c == [101], registry := fun _ => none, gw := gw0,
    tokens := fun a => if a = gasTok then some (sac 1000) else if a = canon then some (sac 500) else none, executable := fun _ => false }
def salt : Bytes := List.replicate 32 1
def tid1 : Bytes := interchainTokenId H0 k0 [115] user salt
def a1 : Addr := deployedAddress S0 k0 svc tid1
def tidc : Bytes := canonicalTokenId H0 k0 [115] canon
def inbound (tid : Bytes) (amt : Int) : Bytes :=
  match Abi.encodeHub (.receiveFromHub [101] (.transfer ⟨tid, [9], enc (.addr user), amt, none⟩)) with
  | .ok b => b
  | .error _ => []
def approveFor (id payload : Bytes) (g : Gateway.State) : Gateway.State :=
  { g with approvals := fun c i => if c = [104] ∧ i = id then .approved (Gateway.messageHash H0 ⟨[104], id, [120], svc, H0 payload⟩) else g.approvals c i }
def ops : List Op :=
  [ .deploy [user] user salt [84] [84] 6 100 none,
    .registerCanonical canon,
    .transfer [user] user tid1 [101] [1] 30 none gasTok 5,
    .transfer [user] user tidc [101] [1] 40 none gasTok 5,
    .gateway (approveFor [49] (inbound tid1 20)),
    .execute [104] [49] [120] (inbound tid1 20),
    .gateway (approveFor [50] (inbound tidc 15)),
    .execute [104] [50] [120] (inbound tidc 15),
    .transfer [user] user tid1 [101] [1] 1000 none gasTok 5 ]     -- more than the holder has: refused, counts for nothing
def okObs : Obs → Bool | .err _ => false | _ => true

instance (self : Addr) (op : Op) : Decidable (Clean self op) := by
  cases op <;> dsimp only [Clean] <;> infer_instance

/-- the hypotheses of `custody_run` and `supply_run` are satisfiable and the equations are not `0 = 0`: a history with a local
    deployment (supply 100), a canonical registration, an outbound burn (30) and lock (40), an inbound mint (20) and release
    (15) and a refused transfer; every hypothesis holds, net supply is 100 − 30 + 20 and net custody 40 − 15 -/
theorem equations_nonvacuous :
    (run H0 S0 k0 st0 ops).2.map okObs = [true, true, true, true, true, true, true, true, false] ∧
    st0.gasService ≠ st0.self ∧ (∀ op ∈ ops, Clean st0.self op) ∧
    [user, svc, gsA].Nodup ∧ (∀ op ∈ ops, ∀ x ∈ touched st0.self st0.gasService op, x ∈ [user, svc, gsA]) ∧
    netSupply H0 S0 k0 st0 a1 ops = 90 ∧ sumBal (run H0 S0 k0 st0 ops).1 a1 [user, svc, gsA] = 90 ∧
    netCustody H0 S0 k0 st0 canon ops = 25 ∧ balOf (run H0 S0 k0 st0 ops).1 canon svc = 25 := by
  decide +kernel

end NonVacuity

end Cgp.Props.C05
