/-
  Property C03 — rotation installs only well-formed sets, authorised by the latest signers; epoch and lookups.
-/
import Cgp.Proofs.C03H
import Cgp.Toy
namespace Cgp.Props.C03
open Cgp.Xdr Cgp.Gateway
open Cgp.Proofs.C03 (GInv_auth step_auth)
open Cgp.Proofs.C03H (AInv AInv_step AInv_auth SInv_auth step_installed)

variable (H : Bytes → Bytes) {σ : Type} (V : Bytes → Bytes → σ → Bool)

/-- the validation loop accepts exactly the well-formed sets -/
theorem validateSigners_iff_wellFormed (ws : WSigners) :
    validateSigners ws = .ok () ↔ WellFormed ws :=
  validateSigners_ok_iff

/-- acceptance condition of a rotation, all conjuncts -/
theorem rotate_ok_iff (st : State) (auths : List Addr) (ws : WSigners) (proof : Proof σ) (bypass : Bool) (now : Nat) :
    (∃ r, rotateSigners H V st auths ws proof bypass now = .ok r) ↔
      ((bypass = true → st.operator ∈ auths) ∧
       (∃ b, validateProof H V st (rotateDataHash H ws) proof = .ok b ∧ (bypass = false → b = true)) ∧
       WellFormed ws ∧
       (bypass = false → st.lastRot.getD 0 ≤ now ∧ st.minDelay ≤ now - st.lastRot.getD 0) ∧
       st.epochByHash (signersHash H ws) = none) := by
  constructor
  · rintro ⟨r, hr⟩
    obtain ⟨h1, h2, h3, h4, h5, _⟩ := rotateSigners_ok_iff.mp hr
    exact ⟨h1, h2, h3, h4, h5⟩
  · rintro ⟨h1, h2, h3, h4, h5⟩
    exact ⟨_, rotateSigners_ok_iff.mpr ⟨h1, h2, h3, h4, h5, rfl⟩⟩

/-- exact effect of a successful rotation -/
theorem rotate_effect (st st' : State) (auths : List Addr) (ws : WSigners) (proof : Proof σ) (bypass : Bool)
    (now : Nat) (evs : List Event)
    (h : rotateSigners H V st auths ws proof bypass now = .ok (st', evs)) :
    st'.epoch = st.epoch + 1 ∧
    st'.hashByEpoch = (fun e => if e = st.epoch + 1 then some (signersHash H ws) else st.hashByEpoch e) ∧
    st'.epochByHash = (fun x => if x = signersHash H ws then some (st.epoch + 1) else st.epochByHash x) ∧
    st'.lastRot = some now ∧
    st'.approvals = st.approvals ∧ st'.owner = st.owner ∧ st'.operator = st.operator ∧
    st'.domain = st.domain ∧ st'.minDelay = st.minDelay ∧ st'.retention = st.retention ∧
    evs.length = 1 := by
  obtain ⟨_, _, _, _, _, ⟨⟩⟩ := rotateSigners_ok_iff.mp h
  exact ⟨rfl, rfl, rfl, rfl, rfl, rfl, rfl, rfl, rfl, rfl, rfl⟩

/-- every failed rotation (any reason, including failures after the epoch counter was already bumped)
    leaves epoch, lookups and rotation clock exactly as they were -/
theorem failed_rotation_unchanged (w : World) (auths : List Addr) (ws : WSigners) (proof : Proof σ) (bypass : Bool)
    (e : Err) (h : (step H V w (.rotate auths ws proof bypass)).2 = .err e) :
    (step H V w (.rotate auths ws proof bypass)).1 = w :=
  step_err H V w _ e h

/-- the invariant holds right after any successful construction (any list of initial sets) -/
theorem GInv_construct (owner operator : Addr) (domain : Bytes) (minDelay retention : Nat) (sets : List WSigners)
    (now : Nat) (st : State) (evs : List Event)
    (h : construct H owner operator domain minDelay retention sets now = .ok (st, evs)) :
    GInv H st ∧ st.epoch = sets.length ∧ 1 ≤ st.epoch := by
  have hg := (GInv_auth H).constructed (w0 := ⟨st, now⟩) (fun _ _ => trivial) (constructed_iff.mpr ⟨rfl, evs, h⟩)
  obtain ⟨hne, h⟩ := construct_ok_iff.mp h
  have h3 : st.epoch = sets.length := (initSets_epoch h).trans (Nat.zero_add _)
  exact ⟨hg, h3, h3 ▸ List.length_pos_iff.mpr hne⟩

/-- construction fails as a whole if ANY initial set is malformed or repeats an earlier one's hash; the empty list fails -/
theorem construct_ok_only_if (owner operator : Addr) (domain : Bytes) (minDelay retention : Nat) (sets : List WSigners)
    (now : Nat) (r : State × List Event)
    (h : construct H owner operator domain minDelay retention sets now = .ok r) :
    sets ≠ [] ∧ (∀ ws ∈ sets, WellFormed ws) ∧ List.Pairwise (fun a b => signersHash H a ≠ signersHash H b) sets := by
  obtain ⟨hne, h⟩ := construct_ok_iff.mp h
  obtain ⟨h1, h2, _⟩ := initSets_distinct h
  exact ⟨hne, h1, h2⟩

/-- every operation preserves the invariant -/
theorem GInv_step (w : World) (op : Op σ) (h : GInv H w.st) : GInv H (step H V w op).1.st :=
  (GInv_auth H).step V w op (fun _ _ _ _ _ => trivial) h

/-- … hence it holds after every history -/
theorem GInv_run (w : World) (ops : List (Op σ)) (h : GInv H w.st) : GInv H (run H V w ops).1.st :=
  run_inv H V (I := fun w => GInv H w.st) (GInv_step H V) ops w h

/-- **every reachable state**: lookups mutually inverse, exactly epochs 1..epoch installed -/
theorem GInv_reachable (w : World) (h : Reachable H V w) : GInv H w.st := by
  obtain ⟨owner, operator, domain, minDelay, retention, sets, now, w0, ops, hc, rfl⟩ := h
  exact GInv_run H V w0 ops ((GInv_auth H).constructed (fun _ _ => trivial) hc)

/-- the epoch advances by exactly one per successful rotation and never otherwise -/
theorem epoch_step (w : World) (op : Op σ) :
    (step H V w op).1.st.epoch = w.st.epoch ∨
    (∃ auths ws proof bypass evs, op = .rotate auths ws proof bypass ∧ (step H V w op).2 = .ok evs ∧
      (step H V w op).1.st.epoch = w.st.epoch + 1) := by
  rcases step_auth H V w op with ⟨_, _, h3, _⟩ | ⟨auths, ws, proof, bypass, evs, hop, hok, hst, _, _⟩
  · exact Or.inl h3
  · exact Or.inr ⟨auths, ws, proof, bypass, evs, hop, hok, congrArg State.epoch hst⟩

/-- non-vacuity: a concrete well-formed set -/
example : WellFormed ⟨[⟨[1], 3⟩, ⟨[2], 4⟩], 7, []⟩ := by
  decide

/-- **every signer set installed after construction was authorised**: start from any successful construction with typed
    initial sets and run ANY history of typed submissions; if afterwards a set `ws` is on record at an epoch beyond the
    initial ones, then somewhere in that history a successful `rotate_signers` call installed exactly `ws` at exactly that
    epoch, `ws` is well-formed, the call's proof was valid in the state it was submitted to (signatures of a registered,
    still-retained set reaching its threshold over the digest binding domain, set, the ROTATION command and `ws`), and
    either the operator authorised a bypass, or the proof came from the then latest set and the minimum delay since the
    previous rotation had elapsed — or a hash collision is exhibited. -/
theorem installed_was_authorised (owner operator : Addr) (domain : Bytes) (minDelay retention : Nat) (sets : List WSigners)
    (now : Nat) (w0 : World) (hsets : ∀ ws ∈ sets, ws.Typed)
    (hc : constructed H owner operator domain minDelay retention sets now = some w0)
    (ops : List (Op σ)) (hty : ∀ op ∈ ops, op.Typed) (e : Nat) (ws : WSigners)
    (hfin : (run H V w0 ops).1.st.setAt e = some ws) (he : w0.st.epoch < e) :
    (∃ wa auths proof bypass evs,
        (wa, Op.rotate auths ws proof bypass, Obs.ok evs) ∈ trace H V w0 ops ∧ wa.st.epoch + 1 = e ∧
        WellFormed ws ∧ ProofValid H V wa.st (rotateDataHash H ws) proof ∧
        (bypass = true → wa.st.operator ∈ auths) ∧
        (bypass = false →
          wa.st.epochByHash (signersHash H proof.weightedSigners) = some wa.st.epoch ∧
          wa.st.lastRot.getD 0 ≤ wa.now ∧ wa.st.minDelay ≤ wa.now - wa.st.lastRot.getD 0))
    ∨ Collision H := by
  rcases trace_origin H V (I := fun w => AInv H w.st) (T := Op.Typed) (C := Collision H)
      (F := fun w => w.st.setAt e = some ws)
      (G := fun x => ∃ auths proof bypass evs, x.2.1 = .rotate auths ws proof bypass ∧ x.2.2 = .ok evs ∧
        x.1.st.epoch + 1 = e ∧ WellFormed ws ∧ ProofValid H V x.1.st (rotateDataHash H ws) proof ∧
        (bypass = true → x.1.st.operator ∈ auths) ∧
        (bypass = false →
          x.1.st.epochByHash (signersHash H proof.weightedSigners) = some x.1.st.epoch ∧
          x.1.st.lastRot.getD 0 ≤ x.1.now ∧ x.1.st.minDelay ≤ x.1.now - x.1.st.lastRot.getD 0))
      (AInv_step H V) (fun w op hop hinv => step_installed H V w op hop hinv e ws)
      ops w0 ((AInv_auth H).constructed hsets hc) hty hfin
    with h | ⟨⟨wa, op, o⟩, hx, auths, proof, bypass, evs, rfl, rfl, hr⟩ | h
  · rw [(SInv_auth H).constructed (fun _ _ => trivial) hc e he] at h; cases h
  · exact Or.inl ⟨wa, auths, proof, bypass, evs, hx, hr⟩
  · exact Or.inr h

section NonVacuity
open Cgp.Toy

def wsA : WSigners := ws0
def opsR : List (Op Unit) :=
  [ .rotate [] wsC pfB false,            -- proof by the latest set: accepted, epoch 3
    .rotate [] wsA pfC false,            -- a set that was installed before: refused
    .rotate [] wsD pfB false,            -- proof by a retained but no longer latest set: refused
    .rotate [] wsBad pfC false,          -- malformed set: refused
    .rotate [] wsD pfB true ]            -- bypass without the operator's authorisation: refused

/-- the hypotheses of `GInv_construct`, `GInv_run`, `GInv_reachable`, `rotate_effect` and `failed_rotation_unchanged` are
    satisfiable: a gateway constructed with two sets (epoch 2) is rotated to a third by a proof of the latest set (epoch 3);
    a repeated set, a proof by an older set, a malformed set and an unauthorised bypass are refused, each for its own reason.
    The resulting world is `Reachable` (witnesses given), exactly the epochs 1..3 are installed and the lookups are mutually
    inverse at the new epoch. -/
theorem rotation_history_nonvacuous :
    ∃ w0, constructed H0 owner0 owner0 [1] 0 5 [wsA, wsB] 5 = some w0 ∧
      (∃ st evs, construct H0 owner0 owner0 [1] 0 5 [wsA, wsB] 5 = .ok (st, evs)) ∧
      GInv H0 w0.st ∧
      Reachable H0 V0 (run H0 V0 w0 opsR).1 ∧
      -- `rotate_effect`: a successful rotation; `failed_rotation_unchanged`: a failed one
      (∃ st' evs, rotateSigners H0 V0 w0.st [] wsC pfB false w0.now = .ok (st', evs)) ∧
      (step H0 V0 (run H0 V0 w0 (opsR.take 1)).1 (.rotate [] wsA pfC false)).2 = .err .duplicateSigners ∧
      WellFormed wsC ∧ ¬ WellFormed wsBad ∧
      -- the history
      w0.st.epoch = 2 ∧
      (run H0 V0 w0 opsR).2.map gwErr =
        [none, some .duplicateSigners, some .notLatestSigners, some .invalidThreshold, some .unauthorized] ∧
      (run H0 V0 w0 opsR).2.map gwEvents = [1, 0, 0, 0, 0] ∧
      (run H0 V0 w0 opsR).1.st.epoch = 3 ∧
      (List.range 6).map (fun e => ((run H0 V0 w0 opsR).1.st.hashByEpoch e).isSome) = [false, true, true, true, false, false] ∧
      (run H0 V0 w0 opsR).1.st.hashByEpoch 3 = some (signersHash H0 wsC) ∧
      (run H0 V0 w0 opsR).1.st.epochByHash (signersHash H0 wsC) = some 3 ∧
      [wsA, wsB, wsC].map (fun ws => (run H0 V0 w0 opsR).1.st.epochByHash (signersHash H0 ws)) = [some 1, some 2, some 3] ∧
      (run H0 V0 w0 opsR).1.st.lastRot = some 5 := by
  refine exists_of_isSome (by decide +kernel) ⟨by decide +kernel,
    (GInv_auth H0).constructed (fun _ _ => trivial) (Option.some_get _).symm,
    ⟨owner0, owner0, [1], 0, 5, [wsA, wsB], 5, _, opsR, (Option.some_get _).symm, rfl⟩, ?_⟩
  decide +kernel

end NonVacuity

end Cgp.Props.C03
