/-
  Property C10 — the ITS codec is exact canonical Solidity ABI and never misdecodes.
-/
import Cgp.Proofs.C10
namespace Cgp.Props.C10
open Cgp.Abi

/-- lenient parsing inverts encoding, for EVERY list of fields -/
theorem parse_encode (fs : List Field) (hwf : ∀ f ∈ fs, f.WF) (hsz : (encodeSeq fs).length < 256 ^ 32) :
    parseAux (fs.map kindOf) (encodeSeq fs) (encodeSeq fs) = some fs :=
  Cgp.Proofs.C10.parse_encode fs hwf hsz

/-- strict decoding inverts encoding … -/
theorem decodeSeq_encodeSeq (fs : List Field) (hwf : ∀ f ∈ fs, f.WF) (hsz : (encodeSeq fs).length < 256 ^ 32) :
    decodeSeq (fs.map kindOf) (encodeSeq fs) = some fs :=
  decodeSeq_some_iff.mpr ⟨parse_encode fs hwf hsz, rfl⟩

/-- … and accepts ONLY canonical encodings: whenever it succeeds, re-encoding the result reproduces the input exactly -/
theorem decodeSeq_canonical (ks : List Bool) (b : Bytes) (fs : List Field) (h : decodeSeq ks b = some fs) :
    encodeSeq fs = b ∧ fs.map kindOf = ks ∧ (∀ f ∈ fs, ∀ x, f = .w x → x.length = 32) :=
  ⟨(decodeSeq_some_iff.mp h).2, parseAux_shape (decodeSeq_some_iff.mp h).1⟩

/-- encoding succeeds exactly for representable messages (a negative amount makes the real encoder panic, invalid
    UTF-8 makes it fail) -/
theorem encodeMsg_ok_iff (m : Msg) :
    (∃ b, encodeMsg m = .ok b) ↔
      (match m with
       | .transfer t => 0 ≤ t.amount
       | .deploy d => validUtf8 d.name = true ∧ validUtf8 d.symbol = true) := by
  cases m with
  | transfer t => exact ⟨fun ⟨_, h⟩ => (encodeMsg_transfer_ok_iff.1 h).1, fun h => ⟨_, encodeMsg_transfer_ok_iff.2 ⟨h, rfl⟩⟩⟩
  | deploy d =>
    exact ⟨fun ⟨_, h⟩ => ⟨(encodeMsg_deploy_ok_iff.1 h).1, (encodeMsg_deploy_ok_iff.1 h).2.1⟩,
      fun ⟨hn, hs⟩ => ⟨_, encodeMsg_deploy_ok_iff.2 ⟨hn, hs, rfl⟩⟩⟩

/-- **round trip**: decoding the encoding of a well-formed message returns the same message (an empty optional byte
    field reads back as absent) -/
theorem decodeMsg_encodeMsg (m : Msg) (b : Bytes) (hwf : m.wf) (henc : encodeMsg m = .ok b) (hsz : b.length < 256 ^ 32) :
    decodeMsg b = .ok m.normalize := by
  rw [decodeMsg_ok_iff]
  cases m with
  | transfer t =>
    obtain ⟨h1, h2, h3⟩ := hwf
    obtain ⟨-, rfl⟩ := encodeMsg_transfer_ok_iff.1 henc
    obtain ⟨hmt, hds, _⟩ := typed_encode 0 _ (by decide) (by simp [h1, word_length]) hsz
    have ha := ofBE_word t.amount.toNat (by omega)
    refine Or.inl ⟨_, _, _, _, _, _, hmt, hds, ?_, ?_⟩
    · rw [ha]; omega
    · rw [ha, ofBytesOpt_optBytes, Int.toNat_of_nonneg h2]; rfl
  | deploy d =>
    obtain ⟨h1, h2, h3, h4⟩ := hwf
    obtain ⟨-, -, rfl⟩ := encodeMsg_deploy_ok_iff.1 henc
    obtain ⟨hmt, hds, _⟩ := typed_encode 1 _ (by decide) (by simp [h1, word_length]) hsz
    have hd := ofBE_word d.decimals (by omega)
    refine Or.inr ⟨_, _, _, _, _, _, hmt, hds, h2, h3, ?_, ?_⟩
    · rw [hd]; exact h4
    · rw [hd, ofBytesOpt_optBytes]; rfl

/-- **canonicity**: whenever decoding succeeds, the result is well-formed, normalised, and re-encodes to exactly the input -/
theorem decodeMsg_canonical (b : Bytes) (m : Msg) (h : decodeMsg b = .ok m) :
    encodeMsg m = .ok b ∧ m.wf ∧ m.normalize = m := by
  rcases decodeMsg_ok_iff.mp h with ⟨x0, tid, src, dst, amt, data, hmt, hds, ha, rfl⟩ |
    ⟨x0, tid, name, symbol, dec, minter, hmt, hds, hn, hs, hd, rfl⟩
  · obtain ⟨_, he, hw⟩ := typed_decode hmt hds
    have htid : tid.length = 32 := hw tid (by simp)
    have hamt : amt.length = 32 := hw amt (by simp)
    refine ⟨encodeMsg_transfer_ok_iff.2 ⟨Int.natCast_nonneg _, ?_⟩,
      ⟨htid, Int.natCast_nonneg _, by show (ofBE amt : Int) < 2 ^ 127; omega⟩, ?_⟩
    · simp only [transferFields, Int.toNat_natCast, word_ofBE amt hamt, optBytes_ofBytesOpt, he]
    · simp only [Msg.normalize, normOpt_ofBytesOpt]
  · obtain ⟨_, he, hw⟩ := typed_decode hmt hds
    have htid : tid.length = 32 := hw tid (by simp)
    have hdec : dec.length = 32 := hw dec (by simp)
    refine ⟨encodeMsg_deploy_ok_iff.2 ⟨hn, hs, ?_⟩, ⟨htid, hn, hs, hd⟩, ?_⟩
    · simp only [deployFields, word_ofBE dec hdec, optBytes_ofBytesOpt, he]
    · simp only [Msg.normalize, normOpt_ofBytesOpt]

/-- both directions in one statement -/
theorem decodeMsg_iff (b : Bytes) (m : Msg) (hsz : b.length < 256 ^ 32) :
    decodeMsg b = .ok m ↔ (m.wf ∧ m.normalize = m ∧ encodeMsg m = .ok b) :=
  ⟨fun h => let ⟨h1, h2, h3⟩ := decodeMsg_canonical b m h; ⟨h2, h3, h1⟩,
   fun ⟨h1, h2, h3⟩ => h2 ▸ decodeMsg_encodeMsg m b h1 h3 hsz⟩

theorem decodeHub_encodeHub (m : HubMsg) (b : Bytes) (hwf : m.wf) (henc : encodeHub m = .ok b) (hsz : b.length < 256 ^ 32) :
    decodeHub b = .ok m.normalize := by
  obtain ⟨ty, chain, im, inner, hty, rfl, hc, hi, rfl⟩ := encodeHub_ok_iff.mp henc
  obtain ⟨hmt, hds, hd⟩ := typed_encode ty [.d chain, .d inner] (by omega) (by simp) hsz
  have hiw : im.wf := by rcases hty with rfl | rfl <;> exact hwf.2
  rw [decodeHub_ok_iff]
  refine ⟨ty, _, chain, inner, _, hty, hmt, hds, hc, decodeMsg_encodeMsg im inner hiw hi (hd inner (by simp)), ?_⟩
  rcases hty with rfl | rfl <;> rfl

theorem decodeHub_canonical (b : Bytes) (m : HubMsg) (h : decodeHub b = .ok m) :
    encodeHub m = .ok b ∧ m.wf ∧ m.normalize = m := by
  obtain ⟨ty, x0, chain, inner, im, hty, hmt, hds, hc, hdm, rfl⟩ := decodeHub_ok_iff.mp h
  obtain ⟨_, he, _⟩ := typed_decode hmt hds
  obtain ⟨hie, hiw, hin⟩ := decodeMsg_canonical inner im hdm
  refine ⟨encodeHub_ok_iff.mpr ⟨ty, chain, im, inner, hty, rfl, hc, hie, he⟩, ?_, ?_⟩
  · rcases hty with rfl | rfl <;> exact ⟨hc, hiw⟩
  · rcases hty with rfl | rfl <;> simp [HubMsg.normalize, hin]

/-- amounts above 2^127-1 are rejected (decoded amounts are always in range) -/
theorem decoded_amount_in_range (b : Bytes) (t : Transfer) (h : decodeMsg b = .ok (.transfer t)) :
    0 ≤ t.amount ∧ t.amount < 2 ^ 127 :=
  (decodeMsg_canonical b _ h).2.1.2

/-- unsupported message types are rejected: an inner message must be type 0 or 1, a hub message type 3 or 4 -/
theorem unsupported_types_rejected (b : Bytes) (hlen : 32 ≤ b.length) :
    (ofBE (b.take 32) ≠ 0 → ofBE (b.take 32) ≠ 1 → ∃ e, decodeMsg b = .error e) ∧
    (ofBE (b.take 32) ≠ 3 → ofBE (b.take 32) ≠ 4 → ∃ e, decodeHub b = .error e) :=
  ⟨fun h0 h1 => error_of_not_ok fun _ hd => (decodeMsg_type hd).2.elim h0 h1,
   fun h3 h4 => error_of_not_ok fun _ hd => (decodeHub_type hd).2.elim h3 h4⟩

theorem short_input_rejected (b : Bytes) (hlen : b.length < 32) :
    (∃ e, decodeMsg b = .error e) ∧ (∃ e, decodeHub b = .error e) :=
  ⟨error_of_not_ok fun _ hd => Nat.not_le.2 hlen (decodeMsg_type hd).1,
   error_of_not_ok fun _ hd => Nat.not_le.2 hlen (decodeHub_type hd).1⟩

theorem decodeMsg_injective (b b' : Bytes) (m : Msg) (h : decodeMsg b = .ok m) (h' : decodeMsg b' = .ok m) : b = b' :=
  Except.ok.inj ((decodeMsg_canonical b m h).1.symm.trans (decodeMsg_canonical b' m h').1)

/-- trailing bytes are rejected: nothing that decodes can be extended and still decode to the same message -/
theorem trailing_bytes_rejected (b extra : Bytes) (m : Msg) (h : decodeMsg b = .ok m) (hne : extra ≠ []) :
    decodeMsg (b ++ extra) ≠ .ok m :=
  fun h' => hne (List.append_right_eq_self.mp (decodeMsg_injective _ _ m h' h))

/-- non-vacuity: a concrete transfer round-trips -/
example : decodeMsg (encodeSeq (transferFields ⟨List.replicate 32 7, [1, 2], [3], 5, none⟩)) =
    .ok (.transfer ⟨List.replicate 32 7, [1, 2], [3], 5, none⟩) :=
  decodeMsg_encodeMsg (.transfer ⟨List.replicate 32 7, [1, 2], [3], 5, none⟩) _
    ⟨by simp, by decide, by decide⟩ rfl (by simp [encodeSeq_length, transferFields, word_length, optBytes, padTo32])

end Cgp.Props.C10
