/-
  Property C07 — no spending, burning, sending or consuming for an address without its authorisation.
  In every model `auths` is the set of addresses that authorised exactly this call (or are the calling contract): a
  success therefore REQUIRES the named address's own authorisation — nobody else's (recipient, counterparty, owner) helps.
-/
import Cgp.Proofs.GasService
import Cgp.Proofs.Operators
import Cgp.Executable
import Cgp.Props.C12
import Cgp.Props.C18
import Cgp.Props.C02
namespace Cgp.Props.C07
open Cgp.Xdr

/-- the address whose authorisation a token operation needs -/
def tokenSubject : Token.Op → Option Addr
  | .approve src _ _ _ => some src
  | .transfer src _ _ => some src
  | .transferFrom spender _ _ _ => some spender
  | .burn src _ => some src
  | .burnFrom spender _ _ => some spender
  | .mintFrom minter _ _ => some minter
  | _ => none

theorem token_debit_needs_subject (st : Token.State) (c : Token.Ctx) (op : Token.Op) (a : Addr) (evs : List Token.Event)
    (hs : tokenSubject op = some a) (hok : (Token.step st c op).2 = .ok evs) : a ∈ c.auths := by
  have he := Token.step_effect st c op
  generalize Token.step st c op = r at he hok
  cases he with
  | mintFrom hau | approve hau | transfer hau | transferFrom hau | burn hau | burnFrom hau => cases hs; exact hau
  | refused => cases hok
  | _ => cases hs

/-- a delegated spend additionally needs an allowance granted BY THE HOLDER: without one (never granted or expired) a
    positive delegated transfer or burn fails even with the spender's authorisation -/
theorem delegated_needs_allowance (st : Token.State) (c : Token.Ctx) (spender src dst : Addr) (amount : Int)
    (hpos : 0 < amount) (hno : (Token.readAllowance st c.seq src spender).amount = 0) :
    (∃ e, Token.transferFrom st c spender src dst amount = .error e) ∧ (∃ e, Token.burnFrom st c spender src amount = .error e) :=
  C12.insufficient_allowance_rejected st c spender src dst amount (hno ▸ hpos)

theorem token_refused_unchanged (st : Token.State) (c : Token.Ctx) (op : Token.Op) (e : Token.Err)
    (h : (Token.step st c op).2 = .error e) : (Token.step st c op).1 = st :=
  Token.step_err st c op e h

section
open Cgp.Token

def Dominated (st : Token.State) (f s : Addr) (a : Token.Allowance) : Prop :=
  ∃ al, st.allow f s = some al ∧ al.expiration = a.expiration ∧ a.amount ≤ al.amount

theorem Dominated.refl {st : State} {f s : Addr} {a : Allowance} (h : st.allow f s = some a) : Dominated st f s a :=
  ⟨a, h, rfl, Int.le_refl _⟩

theorem Dominated.trans {st : State} {f s : Addr} {al a : Allowance} (h : Dominated st f s al)
    (he : al.expiration = a.expiration) (hl : a.amount ≤ al.amount) : Dominated st f s a :=
  let ⟨al0, h0, e0, l0⟩ := h; ⟨al0, h0, e0.trans he, Int.le_trans hl l0⟩

theorem Dominated.of_spend {st : State} {seq : Nat} {src spender f s : Addr} {amount : Int} {a : Allowance}
    (h1 : (st.spend seq src spender amount).allow f s = some a) (hp : 0 < a.amount) : Dominated st f s a := by
  rcases State.spend_allow h1 with h | ⟨rfl, rfl, hpos, rfl⟩
  · exact .refl h
  · have hp' : 0 < (readAllowance st seq f s).amount - amount := hp
    exact ⟨_, (readAllowance_pos (by omega)).1, rfl, by show _ - amount ≤ _; omega⟩

theorem step_allow (st : State) (c : Ctx) (op : Op) {f s : Addr} {al' : Allowance}
    (hal : (step st c op).1.allow f s = some al') (hp : 0 < al'.amount) :
    Dominated st f s al' ∨
    (op = .approve f s al'.amount al'.expiration ∧ f ∈ c.auths ∧ ∃ evs, (step st c op).2 = .ok evs) := by
  have he := step_effect st c op
  generalize step st c op = r at he hal ⊢
  cases he with
  | @approve src sp x e evs hau =>
    rw [State.setAllow_allow] at hal
    split at hal
    · next hfs => obtain ⟨rfl, rfl⟩ := hfs; cases hal; exact .inr ⟨rfl, hau, evs, rfl⟩
    · exact .inl (.refl hal)
  | transferFrom | burnFrom => exact .inl (.of_spend hal hp)
  | _ => exact .inl (.refl hal)

end

/-- a token history recorded as (state before the call, its ledger context, the call) -/
def ttrace (st : Token.State) : List (Token.Ctx × Token.Op) → List (Token.State × Token.Ctx × Token.Op)
  | [] => []
  | (c, op) :: rest => (st, c, op) :: ttrace (Token.step st c op).1 rest

theorem run_allow (hist : List (Token.Ctx × Token.Op)) : ∀ (st0 : Token.State) (src spender : Addr) (a : Token.Allowance),
    (Token.run st0 hist).allow src spender = some a → 0 < a.amount →
    Dominated st0 src spender a ∨
    (∃ st c amount evs,
      (st, c, Token.Op.approve src spender amount a.expiration) ∈ ttrace st0 hist ∧
      (Token.step st c (.approve src spender amount a.expiration)).2 = .ok evs ∧
      src ∈ c.auths ∧ a.amount ≤ amount) := by
  induction hist with
  | nil => exact fun st0 src spender a hfin _ => .inl (.refl hfin)
  | cons x rest ih =>
    intro st0 src spender a hfin hpos
    rcases ih (Token.step st0 x.1 x.2).1 src spender a hfin hpos with ⟨al, hal, hexp, hle⟩ | ⟨st, c', amount, evs, hmem, hr⟩
    · -- the entry is dominated by one after the first call: look at that call
      rcases step_allow st0 x.1 x.2 hal (by omega) with hd | ⟨hop, hau, evs, hok⟩
      · exact .inl (hd.trans hexp hle)
      · rw [hop, hexp] at hok
        exact .inr ⟨st0, x.1, al.amount, evs, hexp ▸ hop ▸ List.mem_cons_self, hok, hau, hle⟩
    · exact .inr ⟨st, c', amount, evs, List.mem_cons_of_mem _ hmem, hr⟩

/-- **every positive allowance on record was granted by the holder**: from construction, through ANY history (any calls,
    authorisations and ledger movements), if the token afterwards holds an allowance entry with a positive amount for
    (holder, spender), then somewhere in that history a successful `approve(holder, spender, amount, expiration)` was
    authorised BY THE HOLDER, for at least that amount and exactly that expiration. Delegated spending only ever lowers the
    amount; nothing but the holder's own approval creates or raises it. Together with `token_debit_needs_subject` (the spender
    must authorise each delegated call) no balance is ever debited without its holder's say. -/
theorem allowance_was_granted (owner : Addr) (minter : Option Addr) (hist : List (Token.Ctx × Token.Op))
    (src spender : Addr) (a : Token.Allowance)
    (hfin : (Token.run (Token.construct owner minter) hist).allow src spender = some a) (hpos : 0 < a.amount) :
    ∃ st c amount evs,
      (st, c, Token.Op.approve src spender amount a.expiration) ∈ ttrace (Token.construct owner minter) hist ∧
      (Token.step st c (.approve src spender amount a.expiration)).2 = .ok evs ∧
      src ∈ c.auths ∧ a.amount ≤ amount :=
  -- a freshly constructed token holds no allowance that could dominate `a`
  (run_allow hist _ src spender a hfin hpos).resolve_left fun ⟨_, hal, _⟩ => nomatch hal

theorem gas_payment_needs_spender (H : Bytes → Bytes) (st : GasService.State) (auths : List Addr) (sender : Addr)
    (chain dest payload msgId : Bytes) (spender token : Addr) (amount : Int) (metadata : Bytes) :
    ((∃ r, GasService.payGas H st auths sender chain dest payload spender token amount metadata = .ok r) → spender ∈ auths) ∧
    ((∃ r, GasService.addGas st auths sender msgId spender token amount = .ok r) → spender ∈ auths) :=
  ⟨fun ⟨_, h⟩ => (GasService.payGas_ok h).1, fun ⟨_, h⟩ => (GasService.addGas_ok h).1⟩

theorem operators_execute_needs_operator {τ : Type} (tgt : Operators.Target τ) (self : Addr) (st : Operators.State) (ts : τ)
    (auths : List Addr) (o c : Addr) (f : Bytes) (args : List ScVal) (r : τ × ScVal)
    (h : Operators.execute tgt self st ts auths o c f args = .ok r) : o ∈ auths ∧ st.isOp o = true :=
  ⟨(Operators.execute_ok_iff.1 h).1, (Operators.execute_ok_iff.1 h).2.1⟩

theorem example_send_needs_caller (H : Bytes → Bytes) (gs : GasService.State) (auths : List Addr) (app caller : Addr)
    (chain dest message : Bytes) (token : Addr) (amount : Int) (r : GasService.State × List GasService.Event)
    (h : Executable.exampleSend H gs auths app caller chain dest message token amount = .ok r) :
    caller ∈ auths ∧ 0 < amount :=
  let ⟨hc, hp⟩ := guard_ok_iff.1 h; ⟨Decidable.not_not.1 hc, (GasService.payGas_ok hp).2.1⟩

theorem gateway_needs_caller (H : Bytes → Bytes) (st : Gateway.State) (auths : List Addr) (caller : Addr)
    (chain dest payload id src ph : Bytes) :
    ((∃ r, Gateway.callContract H st auths caller chain dest payload = .ok r) → caller ∈ auths) ∧
    ((∃ r, Gateway.validateMessage H st auths caller chain id src ph = .ok r) → caller ∈ auths) :=
  ⟨fun ⟨_, h⟩ => (Gateway.callContract_ok_iff.mp h).1, fun ⟨_, h⟩ => (Gateway.validateMessage_ok_iff.mp h).1⟩

/-- consuming a message FOR an address needs that address: the message is only ever consumed for the authorised caller -/
theorem consume_only_for_caller (H : Bytes → Bytes) (st st' : Gateway.State) (auths : List Addr) (caller : Addr)
    (chain id src ph : Bytes) (evs : List Gateway.Event)
    (h : Gateway.validateMessage H st auths caller chain id src ph = .ok (st', true, evs)) :
    caller ∈ auths ∧ st.approvals chain id =
      .approved (Gateway.messageHash H { sourceChain := chain, messageId := id, sourceAddress := src, contract := caller, payloadHash := ph }) :=
  (C02.consume_iff H st auths caller chain id src ph).mp ⟨st', evs, h⟩

theorem its_needs_caller (H S : Bytes → Bytes) (k : Its.Consts) (st : Its.State) (auths : List Addr) (caller token spender : Addr)
    (salt name symbol dest tid destAddr : Bytes) (decimals : Nat) (supply amount : Int) (minter : Option Addr)
    (data : Option Bytes) (gasToken : Addr) (gasAmount : Int) :
    ((∃ r, Its.deployInterchainToken H S k st auths caller salt name symbol decimals supply minter = .ok r) → caller ∈ auths) ∧
    ((∃ r, Its.deployRemoteInterchainToken H k st auths caller salt dest gasToken gasAmount = .ok r) → caller ∈ auths) ∧
    ((∃ r, Its.deployRemoteCanonicalToken H k st auths token dest spender gasToken gasAmount = .ok r) → spender ∈ auths) ∧
    ((∃ r, Its.interchainTransfer H k st auths caller tid dest destAddr amount data gasToken gasAmount = .ok r) → caller ∈ auths) :=
  ⟨fun ⟨_, h⟩ => (Its.deployInterchainToken_ok h).1,
   fun ⟨_, h⟩ => (C18.remote_interchain_needs H k _ _ _ _ _ _ _ _ _ _ h).1,
   fun ⟨_, h⟩ => (C18.remote_canonical_needs H k _ _ _ _ _ _ _ _ _ _ h).1,
   fun ⟨_, h⟩ => (Its.interchainTransfer_ok h).2.1⟩

theorem its_refused_unchanged (H S : Bytes → Bytes) (k : Its.Consts) (st : Its.State) (op : Its.Op) (e : Its.Err)
    (h : (Its.step H S k st op).2 = .err e) : (Its.step H S k st op).1 = st :=
  Its.step_err H S k st op e h

end Cgp.Props.C07
