/-
  Property C06 — administrative operations need the current role holder's authorisation.
  In every model `auths` is the set of addresses that authorised exactly this call: success REQUIRES the current holder.
-/
import Cgp.Proofs.Token
import Cgp.Proofs.GasService
import Cgp.Proofs.Its
import Cgp.Proofs.Operators
import Cgp.Proofs.Upgradable
namespace Cgp.Props.C06
open Cgp.Xdr

theorem gas_admin_needs_holder (st : GasService.State) (auths : List Addr) (new receiver token : Addr) (amount : Int) (msgId : Bytes) :
    ((∃ r, GasService.transferOwnership st auths new = .ok r) → st.owner ∈ auths) ∧
    ((∃ r, GasService.collectFees st auths receiver token amount = .ok r) → st.collector ∈ auths) ∧
    ((∃ r, GasService.refund st auths msgId receiver token amount = .ok r) → st.collector ∈ auths) :=
  ⟨fun ⟨_, h⟩ => (GasService.transferOwnership_ok_iff.1 h).1, fun ⟨_, h⟩ => (GasService.collectFees_ok h).1,
   fun ⟨_, h⟩ => (GasService.refund_ok h).1⟩

theorem gas_roles_step (H : Bytes → Bytes) (st : GasService.State) (op : GasService.Op) :
    (GasService.step H st op).1.collector = st.collector ∧
    ((GasService.step H st op).1.owner = st.owner ∨
     (∃ auths new, op = .transferOwnership auths new ∧ st.owner ∈ auths ∧ (GasService.step H st op).1.owner = new)) := by
  have h := GasService.step_effect H st op
  generalize GasService.step H st op = r at h ⊢
  cases h with
  | transferOwnership ho => exact ⟨rfl, .inr ⟨_, _, rfl, ho, rfl⟩⟩
  | _ => exact ⟨rfl, .inl rfl⟩

theorem operators_admin_needs_owner (st : Operators.State) (auths : List Addr) (a : Addr) :
    ((∃ r, Operators.addOperator st auths a = .ok r) → st.owner ∈ auths) ∧
    ((∃ r, Operators.removeOperator st auths a = .ok r) → st.owner ∈ auths) ∧
    ((∃ r, Operators.transferOwnership st auths a = .ok r) → st.owner ∈ auths) :=
  ⟨fun ⟨_, h⟩ => (Operators.addOperator_ok_iff.1 h).1, fun ⟨_, h⟩ => (Operators.removeOperator_ok_iff.1 h).1,
   fun ⟨_, h⟩ => (Operators.transferOwnership_ok_iff.1 h).1⟩

theorem operators_owner_step {τ : Type} (tgt : Operators.Target τ) (w : Operators.World τ) (op : Operators.Op) :
    (Operators.step tgt w op).1.st.owner = w.st.owner ∨
    (∃ auths new, op = .transferOwnership auths new ∧ w.st.owner ∈ auths ∧ (Operators.step tgt w op).1.st.owner = new) := by
  have h := Operators.step_effect tgt w op
  generalize Operators.step tgt w op = r at h ⊢
  cases h with
  | transferOwnership ho => exact .inr ⟨_, _, rfl, ho, rfl⟩
  | _ => exact .inl rfl

theorem token_admin_needs_owner (st : Token.State) (c : Token.Ctx) (m to new : Addr) (amount : Int) :
    ((∃ r, Token.addMinter st c m = .ok r) → st.owner ∈ c.auths) ∧
    ((∃ r, Token.removeMinter st c m = .ok r) → st.owner ∈ c.auths) ∧
    ((∃ r, Token.mint st c to amount = .ok r) → st.owner ∈ c.auths ∧ st.minter st.owner = true) ∧
    ((∃ r, Token.transferOwnership st c new = .ok r) → st.owner ∈ c.auths) :=
  ⟨fun ⟨_, h⟩ => (Token.addMinter_ok_iff.1 h).1, fun ⟨_, h⟩ => (Token.removeMinter_ok_iff.1 h).1,
   fun ⟨_, h⟩ => ⟨(Token.mintFrom_ok_iff.1 h).1, (Token.mintFrom_ok_iff.1 h).2.1⟩, fun ⟨_, h⟩ => (Token.transferOwnership_ok_iff.1 h).1⟩

theorem token_owner_step (st : Token.State) (c : Token.Ctx) (op : Token.Op) :
    (Token.step st c op).1.owner = st.owner ∨
    (∃ new, op = .transferOwnership new ∧ st.owner ∈ c.auths ∧ (Token.step st c op).1.owner = new) := by
  have he := Token.step_effect st c op
  generalize Token.step st c op = r at he ⊢
  cases he with
  | transferOwnership ho => exact .inr ⟨_, rfl, ho, rfl⟩
  -- projection lemmas, not `rfl`, for the reason given at `C12.roles_step`
  | _ => exact .inl (by simp only [Token.State.credit_owner, Token.State.spend_owner, Token.State.setAllow_owner])

/-- a former holder has no power: after a successful transfer to somebody else, the previous owner's authorisation alone
    no longer suffices for any owner-only operation of the token (the same argument applies to every contract, since each
    check reads the CURRENT holder) -/
theorem former_owner_refused (st st' : Token.State) (c c' : Token.Ctx) (new m : Addr) (evs : List Token.Event)
    (h : Token.transferOwnership st c new = .ok (st', evs)) (hne : new ≠ st.owner) (hc : c'.auths = [st.owner]) :
    (∃ e, Token.addMinter st' c' m = .error e) ∧ (∃ e, Token.removeMinter st' c' m = .error e) ∧
    (∃ e, Token.transferOwnership st' c' m = .error e) := by
  obtain ⟨-, rfl, -⟩ := Token.transferOwnership_ok_iff.1 h
  have hno : new ∉ c'.auths := by rw [hc]; simpa using hne
  exact ⟨⟨_, if_pos hno⟩, ⟨_, if_pos hno⟩, ⟨_, if_pos hno⟩⟩

theorem upgrade_admin_needs_owner (codes : Upgradable.Codes) (c : Upgradable.Contract) (auths am : List Addr) (h nv : Bytes)
    (d : List ScVal) (new : Addr) :
    ((∃ r, Upgradable.upgrade codes c auths h = .ok r) → c.owner ∈ auths) ∧
    ((∃ r, Upgradable.migrate c auths d = .ok r) → c.owner ∈ auths) ∧
    ((∃ r, Upgradable.upgraderUpgrade codes c auths am nv h d = .ok r) → c.owner ∈ auths ∧ c.owner ∈ am) ∧
    ((∃ r, Upgradable.transferOwnership c auths new = .ok r) → c.owner ∈ auths) :=
  ⟨fun ⟨_, hh⟩ => (Upgradable.upgrade_ok_iff.1 hh).1, fun ⟨_, hh⟩ => (Upgradable.migrate_keeps hh).1,
   fun ⟨_, hh⟩ => ⟨(Upgradable.upgraderUpgrade_ok hh).2.2.1,
     (Upgradable.upgraderUpgrade_ok hh).2.2.2.1⟩,
   fun ⟨_, hh⟩ => (Upgradable.transferOwnership_ok_iff.1 hh).1⟩

theorem upgradable_owner_step (codes : Upgradable.Codes) (c : Upgradable.Contract) (op : Upgradable.Op) :
    (Upgradable.step codes c op).1.owner = c.owner ∨
    (∃ auths new, op = .transferOwnership auths new ∧ c.owner ∈ auths ∧ (Upgradable.step codes c op).1.owner = new) := by
  have he := Upgradable.step_effect codes c op
  generalize Upgradable.step codes c op = r at he ⊢
  cases he with
  | migrate hm => exact .inl (Upgradable.migrate_keeps hm).2.1
  | viaUpgrader hu => exact .inl (Upgradable.upgraderUpgrade_ok hu).2.2.2.2.2
  | transferOwnership ho => exact .inr ⟨_, _, rfl, ho, rfl⟩
  | _ => exact .inl rfl

section
variable (H : Bytes → Bytes) {σ : Type} (V : Bytes → Bytes → σ → Bool)

theorem gateway_admin_needs_holder (st : Gateway.State) (auths : List Addr) (new : Addr) (ws : Gateway.WSigners)
    (proof : Gateway.Proof σ) (now : Nat) :
    ((∃ r, Gateway.transferOwnership st auths new = .ok r) → st.owner ∈ auths) ∧
    ((∃ r, Gateway.transferOperatorship st auths new = .ok r) → st.operator ∈ auths) ∧
    ((∃ r, Gateway.rotateSigners H V st auths ws proof true now = .ok r) → st.operator ∈ auths) :=
  ⟨fun ⟨_, h⟩ => (Gateway.transferOwnership_ok_iff.mp h).1,
   fun ⟨_, h⟩ => (Gateway.transferOperatorship_ok_iff.mp h).1,
   fun ⟨_, h⟩ => (Gateway.rotateSigners_ok_iff.mp h).1 rfl⟩

/-- the owner changes only through a transfer authorised by the CURRENT owner, and then is exactly the named successor -/
theorem gateway_owner_step (w : Gateway.World) (op : Gateway.Op σ) :
    (Gateway.step H V w op).1.st.owner = w.st.owner ∨
    (∃ auths new, op = .transferOwnership auths new ∧ w.st.owner ∈ auths ∧ (Gateway.step H V w op).1.st.owner = new) := by
  have h := Gateway.step_effect H V w op
  generalize Gateway.step H V w op = r at h ⊢
  cases h with
  | transferOwnership ha => exact .inr ⟨_, _, rfl, ha, rfl⟩
  | _ => exact Or.inl rfl

/-- holder implied by a history: the successor named by the last successful transfer, else the initial holder -/
def gwOwnerAfter (init : Addr) : List (Gateway.Op σ) → List Gateway.Obs → Addr
  | (.transferOwnership _ new) :: ops, (.ok _) :: os => gwOwnerAfter new ops os
  | _ :: ops, _ :: os => gwOwnerAfter init ops os
  | _, _ => init

theorem gateway_owner_after_history (w : Gateway.World) (ops : List (Gateway.Op σ)) :
    (Gateway.run H V w ops).1.st.owner = gwOwnerAfter w.st.owner ops (Gateway.run H V w ops).2 := by
  induction ops generalizing w with
  | nil => rfl
  | cons op ops ih =>
    rw [Gateway.run_cons, ih]
    -- one step: a refused call leaves the holder, and every accepted one makes `gwOwnerAfter` compute
    have h := Gateway.step_effect H V w op
    generalize Gateway.step H V w op = r at h ⊢
    cases h with
    | refused => cases op <;> rfl
    | _ => rfl

theorem gateway_refused_unchanged (w : Gateway.World) (op : Gateway.Op σ) (e : Gateway.Err)
    (h : (Gateway.step H V w op).2 = .err e) : (Gateway.step H V w op).1 = w :=
  Gateway.step_err H V w op e h
end

theorem its_admin_needs_owner (st : Its.State) (auths : List Addr) (c : Bytes) (new : Addr) :
    ((∃ r, Its.setTrustedChain st auths c = .ok r) → st.owner ∈ auths) ∧
    ((∃ r, Its.removeTrustedChain st auths c = .ok r) → st.owner ∈ auths) ∧
    ((∃ r, Its.transferOwnership st auths new = .ok r) → st.owner ∈ auths) :=
  ⟨fun ⟨_, h⟩ => (Its.setTrustedChain_ok_iff.1 h).1, fun ⟨_, h⟩ => (Its.removeTrustedChain_ok_iff.1 h).1,
   fun ⟨_, h⟩ => (Its.transferOwnership_ok_iff.1 h).1⟩

/-- trusted chains and the owner change only through the owner's authorised calls -/
theorem its_roles_step (H S : Bytes → Bytes) (k : Its.Consts) (st : Its.State) (op : Its.Op) :
    ((Its.step H S k st op).1.trusted = st.trusted ∧ (Its.step H S k st op).1.owner = st.owner) ∨
    (∃ auths, st.owner ∈ auths ∧
      ((∃ c, op = .setTrusted auths c) ∨ (∃ c, op = .removeTrusted auths c) ∨ (∃ new, op = .transferOwnership auths new))) := by
  have he := Its.step_effect H S k st op
  generalize Its.step H S k st op = r at he ⊢
  cases he with
  | setTrusted ho => exact .inr ⟨_, ho, .inl ⟨_, rfl⟩⟩
  | removeTrusted ho => exact .inr ⟨_, ho, .inr (.inl ⟨_, rfl⟩)⟩
  | transferOwnership ho => exact .inr ⟨_, ho, .inr (.inr ⟨_, rfl⟩)⟩
  | _ => exact .inl ⟨rfl, rfl⟩

end Cgp.Props.C06
