/-
  Property C12 — token balances, allowances and supply follow the standard token rules.
-/
import Cgp.Proofs.Token
import Cgp.Toy
namespace Cgp.Props.C12
open Cgp.Xdr Cgp.Token

def total (st : State) : List Addr → Int
  | [] => 0
  | a :: r => st.bal a + total st r

/-- the accounts whose balance an operation may touch -/
def Op.accounts : Op → List Addr
  | .mintFrom _ t _ => [t] | .mint t _ => [t]
  | .transfer s d _ => [s, d] | .transferFrom _ s d _ => [s, d]
  | .burn s _ => [s] | .burnFrom _ s _ => [s]
  | _ => []

/-- change of the total supply caused by a SUCCESSFUL operation -/
def supplyDelta : Op → Int
  | .mintFrom _ _ a => a | .mint _ a => a
  | .burn _ a => -a | .burnFrom _ _ a => -a
  | _ => 0

/-- supply change accumulated over a history (only successful operations count) -/
def supplyChange (st : State) : List (Ctx × Op) → Int
  | [] => 0
  | (c, op) :: rest =>
    (match (step st c op).2 with | .ok _ => supplyDelta op | .error _ => 0) + supplyChange (step st c op).1 rest

def NonNeg (st : State) : Prop :=
  (∀ a, 0 ≤ st.bal a) ∧ (∀ f s al, st.allow f s = some al → 0 ≤ al.amount)

theorem transfer_exact (st st' : State) (c : Ctx) (src dst : Addr) (amount : Int) (evs : List Event)
    (h : transfer st c src dst amount = .ok (st', evs)) :
    src ∈ c.auths ∧ 0 ≤ amount ∧ amount ≤ st.bal src ∧
    (src ≠ dst → st'.bal src = st.bal src - amount ∧ st'.bal dst = st.bal dst + amount) ∧
    (src = dst → st'.bal src = st.bal src) ∧
    (∀ a, a ≠ src → a ≠ dst → st'.bal a = st.bal a) ∧
    st'.allow = st.allow ∧ st'.minter = st.minter ∧ st'.owner = st.owner ∧
    evs = [evTransfer src dst amount] := by
  obtain ⟨hau, h0, hle, -, rfl, hev⟩ := transfer_ok_iff.1 h
  obtain ⟨m1, m2, m3⟩ := moved_bal st src dst amount
  exact ⟨hau, h0, hle, m1, m2, m3, rfl, rfl, rfl, hev⟩

theorem transferFrom_exact (st st' : State) (c : Ctx) (spender src dst : Addr) (amount : Int) (evs : List Event)
    (h : transferFrom st c spender src dst amount = .ok (st', evs)) :
    spender ∈ c.auths ∧ 0 ≤ amount ∧ amount ≤ st.bal src ∧
    amount ≤ (readAllowance st c.seq src spender).amount ∧
    (readAllowance st' c.seq src spender).amount = (readAllowance st c.seq src spender).amount - amount ∧
    (src ≠ dst → st'.bal src = st.bal src - amount ∧ st'.bal dst = st.bal dst + amount) ∧
    (src = dst → st'.bal src = st.bal src) ∧
    (∀ a, a ≠ src → a ≠ dst → st'.bal a = st.bal a) ∧
    evs = [evTransfer src dst amount] := by
  obtain ⟨hau, h0, hal, hle, rfl, hev⟩ := transferFrom_ok h
  obtain ⟨m1, m2, m3⟩ := moved_bal (st.spend c.seq src spender amount) src dst amount
  rw [State.spend_bal] at m1 m2 m3
  exact ⟨hau, h0, hle, hal, State.spend_read h0 hal, m1, m2, m3, hev⟩

theorem mintFrom_exact (st st' : State) (c : Ctx) (minter to : Addr) (amount : Int) (evs : List Event)
    (h : mintFrom st c minter to amount = .ok (st', evs)) :
    minter ∈ c.auths ∧ st.minter minter = true ∧ 0 ≤ amount ∧
    st'.bal to = st.bal to + amount ∧ (∀ a, a ≠ to → st'.bal a = st.bal a) ∧
    st'.allow = st.allow ∧ evs = [evMint minter to amount] := by
  obtain ⟨h1, h2, h3, -, rfl, hev⟩ := mintFrom_ok_iff.1 h
  exact ⟨h1, h2, h3, State.credit_bal_self .., State.credit_bal_other _ _ _, rfl, hev⟩

theorem burn_exact (st st' : State) (c : Ctx) (src : Addr) (amount : Int) (evs : List Event)
    (h : burn st c src amount = .ok (st', evs)) :
    src ∈ c.auths ∧ 0 ≤ amount ∧ amount ≤ st.bal src ∧
    st'.bal src = st.bal src - amount ∧ (∀ a, a ≠ src → st'.bal a = st.bal a) ∧
    st'.allow = st.allow ∧ evs = [evBurn src amount] := by
  obtain ⟨h1, h2, h3, rfl, hev⟩ := burn_ok_iff.1 h
  exact ⟨h1, h2, h3, State.credit_bal_self .., State.credit_bal_other _ _ _, rfl, hev⟩

theorem burnFrom_exact (st st' : State) (c : Ctx) (spender src : Addr) (amount : Int) (evs : List Event)
    (h : burnFrom st c spender src amount = .ok (st', evs)) :
    spender ∈ c.auths ∧ 0 ≤ amount ∧ amount ≤ st.bal src ∧
    amount ≤ (readAllowance st c.seq src spender).amount ∧
    (readAllowance st' c.seq src spender).amount = (readAllowance st c.seq src spender).amount - amount ∧
    st'.bal src = st.bal src - amount ∧ (∀ a, a ≠ src → st'.bal a = st.bal a) ∧
    evs = [evBurn src amount] := by
  obtain ⟨h1, h2, hal, h3, rfl, hev⟩ := burnFrom_ok h
  have hb := State.spend_bal st c.seq src spender amount
  exact ⟨h1, h2, h3, hal, State.spend_read h2 hal, hb ▸ State.credit_bal_self .., hb ▸ State.credit_bal_other _ _ _, hev⟩

theorem total_congr {st st' : State} (l : List Addr) (h : st'.bal = st.bal) : total st' l = total st l := by
  induction l with
  | nil => rfl
  | cons x r ih => simp only [total, ih, h]

theorem total_credit (st : State) (w : Addr) (d : Int) {l : List Addr} (hnd : l.Nodup) :
    total (st.credit w d) l = total st l + if w ∈ l then d else 0 := by
  induction l with
  | nil => simp [total]
  | cons x r ih =>
    rw [List.nodup_cons] at hnd
    simp only [total, State.credit_bal, ih hnd.2, List.mem_cons]
    by_cases hx : x = w
    · subst hx; simp [hnd.1]; omega
    · simp [hx, Ne.symm hx]; omega

/-- one successful operation changes the sum of balances (over any duplicate-free account list that contains
    the accounts it touches) by exactly its supply delta; a failed one changes nothing -/
theorem supply_step (st : State) (c : Ctx) (op : Op) (accts : List Addr) (hnd : accts.Nodup)
    (hin : ∀ a ∈ Op.accounts op, a ∈ accts) :
    total (step st c op).1 accts =
      total st accts + (match (step st c op).2 with | .ok _ => supplyDelta op | .error _ => 0) := by
  have he := step_effect st c op
  generalize step st c op = r at he ⊢
  cases he with
  | mintFrom | mint | burn => rw [total_credit _ _ _ hnd, if_pos (hin _ (.head _))]; rfl
  | burnFrom => rw [total_credit _ _ _ hnd, if_pos (hin _ (.head _)), total_congr _ (State.spend_bal ..)]; rfl
  | transfer =>
    rw [total_credit _ _ _ hnd, total_credit _ _ _ hnd, if_pos (hin _ (.head _)), if_pos (hin _ (.tail _ (.head _)))]
    show _ = _ + 0; omega
  | transferFrom =>
    rw [total_credit _ _ _ hnd, total_credit _ _ _ hnd, if_pos (hin _ (.head _)), if_pos (hin _ (.tail _ (.head _))),
      total_congr _ (State.spend_bal ..)]
    show _ = _ + 0; omega
  -- `by rfl`, not `rfl`: the new state is to be read off the goal first
  | _ => exact (total_congr accts (by rfl)).trans (Int.add_zero _).symm

/-- **Σ balances = supply** over every history: the sum of balances moves exactly by the mints minus the burns -/
theorem supply_run (st : State) (ops : List (Ctx × Op)) (accts : List Addr) (hnd : accts.Nodup)
    (hin : ∀ p ∈ ops, ∀ a ∈ Op.accounts p.2, a ∈ accts) :
    total (run st ops) accts = total st accts + supplyChange st ops :=
  Run.telescope (fun st p => (step st p.1 p.2).1) run (fun _ => rfl) (fun _ ⟨_, _⟩ _ => rfl)
    (fun _ => True) (fun _ _ _ => trivial) (fun p => ∀ a ∈ Op.accounts p.2, a ∈ accts)
    (total · accts) _ supplyChange (fun _ => rfl) (fun _ ⟨_, _⟩ _ => rfl)
    (fun st p _ hc => supply_step st p.1 p.2 accts hnd hc) ops st trivial hin

theorem nonneg_construct (owner : Addr) (minter : Option Addr) : NonNeg (construct owner minter) :=
  ⟨fun _ => Int.le_refl 0, fun _ _ _ h => nomatch h⟩

theorem NonNeg.credit {st : State} (h : NonNeg st) {w : Addr} {d : Int} (hd : 0 ≤ st.bal w + d) :
    NonNeg (st.credit w d) := by
  refine ⟨fun a => ?_, h.2⟩
  rw [State.credit_bal]
  split
  · next e => rw [e]; exact hd
  · have := h.1 a; omega

theorem NonNeg.move {st : State} (h : NonNeg st) {src dst : Addr} {amount : Int} (h0 : 0 ≤ amount) (hle : amount ≤ st.bal src) :
    NonNeg ((st.credit src (-amount)).credit dst amount) := by
  have := h.1 dst
  exact (h.credit (by omega)).credit (by rw [State.credit_bal]; split <;> omega)

theorem NonNeg.setAllow {st : State} (h : NonNeg st) (src spender : Addr) {al : Allowance} (hal : 0 ≤ al.amount) :
    NonNeg (st.setAllow src spender al) := by
  refine ⟨h.1, fun f s al' hfs => ?_⟩
  rw [State.setAllow_allow] at hfs
  split at hfs
  · cases hfs; exact hal
  · exact h.2 f s al' hfs

theorem NonNeg.spend {st : State} (h : NonNeg st) {seq : Nat} {src spender : Addr} {amount : Int}
    (hle : amount ≤ (readAllowance st seq src spender).amount) : NonNeg (st.spend seq src spender amount) := by
  refine ⟨by rw [State.spend_bal]; exact h.1, fun f s al hfs => ?_⟩
  rcases State.spend_allow hfs with h1 | ⟨-, -, -, rfl⟩
  · exact h.2 f s al h1
  · show 0 ≤ _ - amount; omega

theorem nonneg_step (st : State) (c : Ctx) (op : Op) (h : NonNeg st) : NonNeg (step st c op).1 := by
  have he := step_effect st c op
  generalize step st c op = r at he ⊢
  cases he with
  | mintFrom _ _ h0 | mint _ _ h0 => exact h.credit (Int.add_nonneg (h.1 _) h0)
  | approve _ h0 => exact h.setAllow _ _ h0
  | transfer _ h0 hle => exact h.move h0 hle
  | transferFrom _ h0 hal hle => exact (h.spend hal).move h0 (by rw [State.spend_bal]; exact hle)
  | burn _ _ hle => exact h.credit (by omega)
  | burnFrom _ _ hal hle => exact (h.spend hal).credit (by rw [State.spend_bal]; omega)
  | _ => exact h

/-- no balance or allowance is ever negative, in any history from construction -/
theorem nonneg_run (st : State) (ops : List (Ctx × Op)) (h : NonNeg st) : NonNeg (run st ops) :=
  Run.invariant (fun st p => (step st p.1 p.2).1) run (fun _ => rfl) (fun _ ⟨_, _⟩ _ => rfl) NonNeg
    (fun st p => nonneg_step st p.1 p.2) ops st h

theorem rejected_no_effect (st : State) (c : Ctx) (op : Op) (e : Err) (h : (step st c op).2 = .error e) :
    (step st c op).1 = st :=
  step_err st c op e h

def Op.amount : Op → Option Int
  | .mintFrom _ _ a => some a | .mint _ a => some a | .approve _ _ a _ => some a
  | .transfer _ _ a => some a | .transferFrom _ _ _ a => some a | .burn _ a => some a | .burnFrom _ _ a => some a
  | _ => none

theorem negative_amount_rejected (st : State) (c : Ctx) (op : Op) (a : Int) (ha : Op.amount op = some a) (hneg : a < 0) :
    ∃ e, (step st c op).2 = .error e := by
  have he := step_effect st c op
  generalize step st c op = r at he ⊢
  cases he with
  | refused _ e => exact ⟨e, rfl⟩
  | mintFrom _ _ h0 | mint _ _ h0 | approve _ h0 | transfer _ h0 | transferFrom _ h0 | burn _ h0 | burnFrom _ h0 =>
    cases ha; omega
  | _ => cases ha

theorem insufficient_balance_rejected (st : State) (c : Ctx) (src dst : Addr) (amount : Int) (h : st.bal src < amount) :
    (∃ e, transfer st c src dst amount = .error e) ∧ (∃ e, burn st c src amount = .error e) ∧
    (∀ spender, (∃ e, transferFrom st c spender src dst amount = .error e) ∧ (∃ e, burnFrom st c spender src amount = .error e)) :=
  ⟨error_of_not_ok fun _ hr => Int.not_le.2 h (transfer_ok_iff.1 hr).2.2.1,
   error_of_not_ok fun _ hr => Int.not_le.2 h (burn_ok_iff.1 hr).2.2.1,
   fun _ => ⟨error_of_not_ok fun _ hr => Int.not_le.2 h (transferFrom_ok hr).2.2.2.1,
     error_of_not_ok fun _ hr => Int.not_le.2 h (burnFrom_ok hr).2.2.2.1⟩⟩

/-- insufficient, expired or never-granted allowance: delegated operations with a positive amount are rejected -/
theorem insufficient_allowance_rejected (st : State) (c : Ctx) (spender src dst : Addr) (amount : Int)
    (h : (readAllowance st c.seq src spender).amount < amount) :
    (∃ e, transferFrom st c spender src dst amount = .error e) ∧ (∃ e, burnFrom st c spender src amount = .error e) :=
  ⟨error_of_not_ok fun _ hr => Int.not_le.2 h (transferFrom_ok hr).2.2.1,
   error_of_not_ok fun _ hr => Int.not_le.2 h (burnFrom_ok hr).2.2.1⟩

theorem never_granted_reads_zero (st : State) (seq : Nat) (src spender : Addr) (h : st.allow src spender = none) :
    (readAllowance st seq src spender).amount = 0 := by
  rw [readAllowance_none seq h]

theorem expired_reads_zero (st : State) (seq : Nat) (src spender : Addr) (al : Allowance)
    (h : st.allow src spender = some al) (hexp : al.expiration < seq) :
    (readAllowance st seq src spender).amount = 0 := by
  rw [readAllowance_some seq h, if_pos hexp]

/-- after a successful approve, the allowance reads as the approved amount at every ledger up to AND INCLUDING the
    expiration ledger, and as 0 afterwards -/
theorem allowance_live_iff (st st' : State) (c : Ctx) (src spender : Addr) (amount : Int) (exp : Nat) (evs : List Event)
    (h : approve st c src spender amount exp = .ok (st', evs)) (seq' : Nat) :
    (readAllowance st' seq' src spender).amount = if seq' ≤ exp then amount else 0 := by
  obtain ⟨-, -, -, rfl, -⟩ := approve_ok h
  rw [readAllowance_some seq' (if_pos ⟨rfl, rfl⟩)]
  by_cases hs : seq' ≤ exp
  · rw [if_neg (Nat.not_lt.2 hs), if_pos hs]
  · rw [if_pos (Nat.not_le.1 hs), if_neg hs]

theorem approve_exact (st st' : State) (c : Ctx) (src spender : Addr) (amount : Int) (exp : Nat) (evs : List Event)
    (h : approve st c src spender amount exp = .ok (st', evs)) :
    src ∈ c.auths ∧ 0 ≤ amount ∧ (0 < amount → c.seq ≤ exp) ∧
    st'.bal = st.bal ∧ (∀ f s, ¬ (f = src ∧ s = spender) → st'.allow f s = st.allow f s) ∧
    evs = [evApprove src spender amount exp] := by
  obtain ⟨h1, h2, h3, rfl, h5⟩ := approve_ok h
  exact ⟨h1, h2, fun hp => (h3 hp).1, rfl, fun f s hfs => if_neg hfs, h5⟩

theorem approve_rejects_expired_positive (st : State) (c : Ctx) (src spender : Addr) (amount : Int) (exp : Nat)
    (hpos : 0 < amount) (hexp : exp < c.seq) : ∃ e, approve st c src spender amount exp = .error e :=
  error_of_not_ok fun _ hr => Nat.not_le.2 hexp ((approve_ok hr).2.2.1 hpos).1

theorem only_minters_mint (st : State) (c : Ctx) (op : Op) (evs : List Event)
    (hok : (step st c op).2 = .ok evs) (hd : 0 < supplyDelta op) :
    (∃ m t a, op = .mintFrom m t a ∧ st.minter m = true ∧ m ∈ c.auths) ∨
    (∃ t a, op = .mint t a ∧ st.minter st.owner = true ∧ st.owner ∈ c.auths) := by
  have he := step_effect st c op
  generalize step st c op = r at he hok
  cases he with
  | mintFrom hau hm => exact .inl ⟨_, _, _, rfl, hm, hau⟩
  | mint hau hm => exact .inr ⟨_, _, rfl, hm, hau⟩
  | burn _ h0 | burnFrom _ h0 => simp only [supplyDelta] at hd; omega
  | refused => cases hok
  | _ => cases hd

/-- the minter set and the owner change only through the owner's own authorised calls -/
theorem roles_step (st : State) (c : Ctx) (op : Op) :
    ((step st c op).1.minter = st.minter ∧ (step st c op).1.owner = st.owner) ∨ st.owner ∈ c.auths := by
  have he := step_effect st c op
  generalize step st c op = r at he ⊢
  cases he with
  | addMinter ho | removeMinter ho | transferOwnership ho | upgradeMigrate ho => exact .inr ho
  -- the roles of the new state are read off with the projection lemmas: `rfl` through `credit`/`spend` is slow to check
  | _ =>
    exact .inl ⟨by simp only [State.credit_minter, State.spend_minter, State.setAllow_minter],
      by simp only [State.credit_owner, State.spend_owner, State.setAllow_owner]⟩

/-- administrator change: the ownable event and the token-standard `set_admin` event both name the PREVIOUS and the new administrator -/
theorem transferOwnership_exact (st st' : State) (c : Ctx) (new : Addr) (evs : List Event)
    (h : transferOwnership st c new = .ok (st', evs)) :
    st.owner ∈ c.auths ∧ st'.owner = new ∧ st'.bal = st.bal ∧ st'.allow = st.allow ∧ st'.minter = st.minter ∧
    evs = [evOwnershipTransferred st.owner new, evSetAdmin st.owner new] := by
  obtain ⟨h1, rfl, h3⟩ := transferOwnership_ok_iff.1 h
  exact ⟨h1, rfl, rfl, rfl, rfl, h3⟩

/-- non-vacuity: a concrete successful transfer -/
example : ∃ st' evs, transfer { (construct ⟨true, [1]⟩ none) with bal := fun _ => 5 }
    ⟨[⟨true, [2]⟩], 0, 0⟩ ⟨true, [2]⟩ ⟨true, [3]⟩ 5 = .ok (st', evs) :=
  ⟨_, _, transfer_ok_iff.2 ⟨List.mem_singleton.2 rfl, by decide, by decide, by decide, rfl, rfl⟩⟩

/-- the owner's administrative step — upgrade to the same code and migration — changes no balance, allowance or role, whether it
    is accepted or refused; it is accepted only with the owner's authorisation (the history theorems above range over it) -/
theorem admin_step_changes_nothing (st : State) (c : Ctx) :
    (step st c .upgradeMigrate).1 = st ∧
    (∀ r, apply st c .upgradeMigrate = .ok r → r = (st, []) ∧ st.owner ∈ c.auths) :=
  ⟨step_upgradeMigrate_fst, fun _ => apply_upgradeMigrate_ok⟩

section NonVacuity
open Cgp.Toy

def minterB : Addr := ⟨true, List.replicate 32 8⟩
def alice : Addr := ⟨false, List.replicate 32 11⟩
def bob : Addr := ⟨false, List.replicate 32 12⟩
def carol : Addr := ⟨false, List.replicate 32 13⟩
def accts : List Addr := [alice, bob, carol]
/-- a freshly constructed token: owner `owner0`, designated minter `minterB` -/
def st0 : State := construct owner0 (some minterB)
/-- ledger 10, host TTL limit 100 -/
def ctxOf (a : Addr) : Ctx := ⟨[a], 10, 100⟩
def opsK : List (Ctx × Op) :=
  [ (ctxOf owner0, .mint alice 100),                         -- the owner mints
    (ctxOf minterB, .mintFrom minterB bob 50),               -- the designated minter mints
    (ctxOf alice, .transfer alice bob 30),
    (ctxOf alice, .approve alice carol 40 20),               -- allowance 40 until ledger 20
    (ctxOf carol, .transferFrom carol alice bob 25),         -- allowance 15 left
    (ctxOf bob, .burn bob 5),
    (ctxOf alice, .transfer alice bob 1000),                 -- overdraft: refused
    (ctxOf carol, .transferFrom carol alice bob 20),         -- more than the allowance left: refused
    (ctxOf carol, .burnFrom carol alice 10),                 -- allowance 5 left
    (ctxOf alice, .mint alice 5),                            -- not the owner's authorisation: refused
    (ctxOf carol, .mintFrom carol carol 5),                  -- not a minter: refused
    (ctxOf alice, .transfer alice bob (-1)),                 -- negative amount: refused
    (ctxOf bob, .transfer alice bob 1),                      -- not the holder's authorisation: refused
    (⟨[carol], 21, 100⟩, .transferFrom carol alice bob 5), -- after the expiration ledger: refused
    (ctxOf alice, .addMinter carol),                         -- not the owner: refused
    (ctxOf owner0, .addMinter carol),
    (ctxOf owner0, .transferOwnership alice) ]
/-- what each call of a history returned: `none` = success -/
def outcomes (st : State) : List (Ctx × Op) → List (Option Err)
  | [] => []
  | (c, op) :: rest =>
    (match (step st c op).2 with | .ok _ => none | .error e => some e) :: outcomes (step st c op).1 rest

/-- the hypotheses of `supply_run` and `nonneg_run` are satisfiable and the supply equation is not `0 = 0`: a history from
    construction with two mints (100 + 50), a transfer, an approval, a delegated transfer, a burn (5), a delegated burn (10) and
    eight refused calls (overdraft, allowance exceeded, allowance expired, missing authorisations, non-minter, negative
    amount).  Σ balances = 135 = supply change; no balance or allowance is negative; the minter set and the owner changed only
    by the owner's own calls (`roles_step`: both alternatives occur). -/
theorem token_history_nonvacuous :
    NonNeg st0 ∧
    accts.Nodup ∧ (∀ p ∈ opsK, ∀ a ∈ Op.accounts p.2, a ∈ accts) ∧
    outcomes st0 opsK =
      [none, none, none, none, none, none, some .insufficientBalance, some .insufficientAllowance, none, some .unauthorized,
       some .notMinter, some .invalidAmount, some .unauthorized, some .insufficientAllowance, some .unauthorized, none, none] ∧
    total st0 accts = 0 ∧ supplyChange st0 opsK = 135 ∧ total (run st0 opsK) accts = 135 ∧
    accts.map (run st0 opsK).bal = [35, 100, 0] ∧
    (run st0 opsK).allow alice carol = some ⟨5, 20⟩ ∧
    (readAllowance (run st0 opsK) 20 alice carol).amount = 5 ∧ (readAllowance (run st0 opsK) 21 alice carol).amount = 0 ∧
    [owner0, minterB, carol, alice].map st0.minter = [true, true, false, false] ∧
    [owner0, minterB, carol, alice].map (run st0 opsK).minter = [true, true, true, false] ∧
    st0.owner = owner0 ∧ (run st0 opsK).owner = alice ∧
    -- a refused call of `rejected_no_effect` / `insufficient_balance_rejected`: the balance really is too small
    (run st0 (opsK.take 6)).bal alice < 1000 := by
  refine ⟨nonneg_construct _ _, ?_⟩
  decide +kernel

end NonVacuity

end Cgp.Props.C12
