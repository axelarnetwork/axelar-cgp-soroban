/-
  Cgp.Operators — operational model **M** of contracts/axelar-operators/src/contract.rs.
  The target of a forwarded call is a PARAMETER: a deterministic state machine `tgt` over some target state `τ`
  (`none` = the target call fails/traps).
-/
import Cgp.Xdr
namespace Cgp.Operators
open Cgp Cgp.Xdr

inductive Err where
  | unauthorized | operatorAlreadyAdded | notAnOperator | targetFailed
deriving DecidableEq, Repr, Inhabited

structure Event where
  topics : List ScVal
  data : ScVal

structure State where
  owner : Addr
  isOp : Addr → Bool

def sym (s : String) : ScVal := .sym s.toUTF8.toList

/-- a call as the target sees it: which contract, which function, which arguments, and who is calling -/
structure Call where
  contract : Addr
  func : Bytes
  args : List ScVal
  invoker : Addr

abbrev Target (τ : Type) := τ → Call → Option (τ × ScVal)

def addOperator (st : State) (auths : List Addr) (a : Addr) : Except Err (State × List Event) :=
  if st.owner ∉ auths then .error .unauthorized
  else if st.isOp a then .error .operatorAlreadyAdded
  else .ok ({ st with isOp := fun x => if x = a then true else st.isOp x }, [⟨[sym "operator_added", .addr a], .void⟩])

def removeOperator (st : State) (auths : List Addr) (a : Addr) : Except Err (State × List Event) :=
  if st.owner ∉ auths then .error .unauthorized
  else if !st.isOp a then .error .notAnOperator
  else .ok ({ st with isOp := fun x => if x = a then false else st.isOp x }, [⟨[sym "operator_removed", .addr a], .void⟩])

def transferOwnership (st : State) (auths : List Addr) (new : Addr) : Except Err (State × List Event) :=
  if st.owner ∉ auths then .error .unauthorized
  else .ok ({ st with owner := new }, [⟨[sym "ownership_transferred", .addr st.owner, .addr new], .vec .nil⟩])

/-- `execute(operator, contract, func, args)`: operator auth, membership, forward exactly once, hand the value back -/
def execute {τ : Type} (tgt : Target τ) (self : Addr) (st : State) (ts : τ) (auths : List Addr)
    (operator contract : Addr) (func : Bytes) (args : List ScVal) : Except Err (τ × ScVal) :=
  if operator ∉ auths then .error .unauthorized
  else if !st.isOp operator then .error .notAnOperator
  else match tgt ts ⟨contract, func, args, self⟩ with
    | none => .error .targetFailed
    | some (ts', v) => .ok (ts', v)

/-! ### transition system -/

inductive Op where
  | add (auths : List Addr) (a : Addr)
  | remove (auths : List Addr) (a : Addr)
  | transferOwnership (auths : List Addr) (new : Addr)
  | execute (auths : List Addr) (operator contract : Addr) (func : Bytes) (args : List ScVal)
  /-- the owner upgrades the contract to its own code and runs the (empty) migration -/
  | upgradeMigrate (auths : List Addr)

inductive Obs where
  | ok (evs : List Event)
  | value (v : ScVal)
  | err (e : Err)

structure World (τ : Type) where
  self : Addr
  st : State
  ts : τ

def step {τ : Type} (tgt : Target τ) (w : World τ) : Op → World τ × Obs
  | .add au a => match addOperator w.st au a with
    | .ok (st', evs) => ({ w with st := st' }, .ok evs)
    | .error e => (w, .err e)
  | .remove au a => match removeOperator w.st au a with
    | .ok (st', evs) => ({ w with st := st' }, .ok evs)
    | .error e => (w, .err e)
  | .transferOwnership au n => match transferOwnership w.st au n with
    | .ok (st', evs) => ({ w with st := st' }, .ok evs)
    | .error e => (w, .err e)
  | .execute au o c f args => match execute tgt w.self w.st w.ts au o c f args with
    | .ok (ts', v) => ({ w with ts := ts' }, .value v)
    | .error e => (w, .err e)
  | .upgradeMigrate au => if w.st.owner ∈ au then (w, .ok []) else (w, .err .unauthorized)

def run {τ : Type} (tgt : Target τ) (w : World τ) : List Op → World τ × List Obs
  | [] => (w, [])
  | op :: ops =>
    let (w', o) := step tgt w op
    let (w'', os) := run tgt w' ops
    (w'', o :: os)

end Cgp.Operators
